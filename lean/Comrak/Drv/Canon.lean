/-
Driver side of the canonical-document checks (C03): `canon <seed> <size>` (first-stage class, also the
document source of C07/C17) and `canon2 <seed> <size>` (whole class: + tables, ...) generate a `Doc` from a
PRNG inside the driver, so that the `write`, `toTree` and `refHtml` executed are the proved
definitions, and answers `<ok> <hex write d> <hex refHtml d> <tree wire of toTree d>`.
`Wire.print` is the inverse of `Wire.tree?` (Comrak/Ast.lean).
`canoncm <seed> <size>` generates a document of the class of `C17.cm_fixed_point_canon_partial` (see below).
-/
import Comrak.Drv.Util
import Comrak.Canon.Ok
import Comrak.Canon.Ref
import Comrak.Canon.Pos
import Comrak.Lemmas.CmBlock
namespace Comrak.Wire
open Comrak Bytes

def pHex (b : Bytes) : String := if b.isEmpty then "-" else toHex b
def pBool (b : Bool) : String := if b then "1" else "0"

def pNList (l : NList) : String :=
  s!"{if l.ty == .bullet then 0 else 1} {l.markerOffset} {l.padding} {l.start} {if l.delim == .period then 0 else 1} {l.bulletChar.toNat} {pBool l.tight} {pBool l.isTaskList}"

def pAligns (a : List Align) : String :=
  if a.isEmpty then "-" else
  String.ofList (a.map fun x => match x with | .none => 'n' | .left => 'l' | .center => 'c' | .right => 'r')

def pAlert : AlertType → String
  | .note => "0" | .tip => "1" | .important => "2" | .warning => "3" | .caution => "4"

/-- Kind name followed by the payload fields. -/
def pValue : NodeValue → String
  | .document => "document"
  | .frontMatter s => s!"frontmatter {pHex s}"
  | .blockQuote => "block_quote"
  | .list l => s!"list {pNList l}"
  | .item l => s!"item {pNList l}"
  | .descriptionList => "description_list"
  | .descriptionItem a b c => s!"description_item {a} {b} {pBool c}"
  | .descriptionTerm => "description_term"
  | .descriptionDetails => "description_details"
  | .codeBlock f c len off info lit => s!"code_block {pBool f} {c.toNat} {len} {off} {pHex info} {pHex lit}"
  | .htmlBlock t lit => s!"html_block {t} {pHex lit}"
  | .paragraph => "paragraph"
  | .heading l s => s!"heading {l} {pBool s}"
  | .thematicBreak => "thematic_break"
  | .footnoteDefinition n t => s!"footnote_definition {pHex n} {t}"
  | .table al nc nr ne => s!"table {nc} {nr} {ne} {pAligns al}"
  | .tableRow h => s!"table_row {pBool h}"
  | .tableCell => "table_cell"
  | .text s => s!"text {pHex s}"
  | .taskItem none => "taskitem 0 -"
  | .taskItem (some s) => s!"taskitem 1 {pHex s}"
  | .softBreak => "softbreak"
  | .lineBreak => "linebreak"
  | .code n s => s!"code {n} {pHex s}"
  | .htmlInline s => s!"html_inline {pHex s}"
  | .raw s => s!"raw {pHex s}"
  | .emph => "emph"
  | .strong => "strong"
  | .strikethrough => "strikethrough"
  | .superscript => "superscript"
  | .link u t => s!"link {pHex u} {pHex t}"
  | .image u t => s!"image {pHex u} {pHex t}"
  | .footnoteReference n r i => s!"footnote_reference {pHex n} {r} {i}"
  | .math d p l => s!"math {pBool d} {pBool p} {pHex l}"
  | .multilineBlockQuote a b => s!"multiline_block_quote {a} {b}"
  | .escaped => "escaped"
  | .wikiLink u => s!"wikilink {pHex u}"
  | .underline => "underline"
  | .subscript => "subscript"
  | .spoileredText => "spoiler"
  | .escapedTag s => s!"escaped_tag {pHex s}"
  | .alert ty none m fl fo => s!"alert {pAlert ty} 0 - {pBool m} {fl} {fo}"
  | .alert ty (some t) m fl fo => s!"alert {pAlert ty} 1 {pHex t} {pBool m} {fl} {fo}"

mutual
def printT : Tree → List String → List String
  | .node v sp cs, acc =>
    match (pValue v).splitOn " " with
    | [] => acc
    | kind :: fields =>
      ["N", kind, toString sp.sl, toString sp.sc, toString sp.el, toString sp.ec] ++ fields ++ printF cs ("E" :: acc)
def printF : Forest → List String → List String
  | .nil, acc => acc
  | .cons t ts, acc => printT t (printF ts acc)
end

/-- `N <kind> <sl> <sc> <el> <ec> <fields...> children... E`, tokens separated by one space. -/
def print (t : Tree) : String := " ".intercalate (printT t [])

end Comrak.Wire

namespace Comrak.Drv.Canon
open Comrak Bytes Comrak.Drv Comrak.Canon

/-! ## Generator: xorshift64* state threaded by hand -/

abbrev Gen := StateM UInt64

def nextU : Gen UInt64 := fun s =>
  let x := s ^^^ (s >>> 12)
  let x := x ^^^ (x <<< 25)
  let x := x ^^^ (x >>> 27)
  (x * 0x2545F4914F6CDD1D, x)

def below (n : Nat) : Gen Nat := do
  let x ← nextU
  pure (if n = 0 then 0 else (x >>> 11).toNat % n)

def chance (num den : Nat) : Gen Bool := do pure ((← below den) < num)

def pick [Inhabited α] (xs : List α) : Gen α := do pure (xs.getD (← below xs.length) default)

def seedOf (seed : Nat) : UInt64 :=
  let z : UInt64 := UInt64.ofNat seed + 0x9E3779B97F4A7C15
  let z := (z ^^^ (z >>> 30)) * 0xBF58476D1CE4E5B9
  let z := (z ^^^ (z >>> 27)) * 0x94D049BB133111EB
  let z := z ^^^ (z >>> 31)
  if z == 0 then 0x123456789ABCDEF1 else z

def alnums : Bytes := "abcdefghijklmnopqrstuvwxyzABCDEFGHIJKLMNOPQRSTUVWXYZ0123456789".toUTF8.toList
def puncts : Bytes := "!\"#$%&'()*+,-./:;<=>?@[\\]^_`{|}~".toUTF8.toList

def genAlnum : Gen Atom := do pure (.ch (← pick alnums))

def genAtom : Gen Atom := do
  let k ← below 100
  if k < 55 then genAlnum
  else if k < 68 then pure (.ch 0x20)
  else if k < 73 then pure (.ch (← pick plainPunct))
  else if k < 88 then pure (.esc (← pick puncts))
  else if k < 92 then pure (.ent (← below entTable.length))
  else if k < 96 then pure (.num (← pick (alnums ++ puncts)) (← chance 1 2))
  else pure (.uni (← below uniTable.length))

def genNonSpace : Gen Atom := do
  let a ← genAtom
  if a.isSpace then genAlnum else pure a

def genAtoms : Nat → Gen (List Atom)
  | 0 => pure []
  | n + 1 => do let a ← genAtom; let r ← genAtoms n; pure (a :: r)

/-- A text run; `lead`/`trail`: put a space at that end; `alnumFirst/Last`: force a letter or digit. -/
def genPlain : Gen Atom := do
  let k ← below 100
  if k < 70 then genAlnum
  else if k < 85 then pure (.ch 0x20)
  else if k < 93 then pure (.ch (← pick plainPunct))
  else pure (.uni (← below uniTable.length))

def genPlains : Nat → Gen (List Atom)
  | 0 => pure []
  | n + 1 => do let a ← genPlain; let r ← genPlains n; pure (a :: r)

/-- One escape or character reference (its own text node inside brackets). -/
def genSpecial : Gen Inl := do
  let k ← below 10
  if k < 6 then pure (.text [.esc (← pick puncts)])
  else if k < 8 then pure (.text [.ent (← below entTable.length)])
  else pure (.text [.num (← pick (alnums ++ puncts)) (← chance 1 2)])

def genText (plainOnly lead trail alnumFirst alnumLast : Bool) : Gen Inl := do
  let n ← below 6
  let nonSpace : Gen Atom := do
    let a ← if plainOnly then genPlain else genAtom
    if a.isSpace then genAlnum else pure a
  let first ← if alnumFirst then genAlnum else nonSpace
  let mid ← if plainOnly then genPlains n else genAtoms n
  let last ← if alnumLast then genAlnum else nonSpace
  let core := if n == 0 && (← chance 1 2) then [first] else [first] ++ mid ++ [last]
  pure (.text ((if lead then [.ch 0x20] else []) ++ core ++ (if trail then [.ch 0x20] else [])))

def genBytes (alpha : Bytes) : Nat → Gen Bytes
  | 0 => pure []
  | n + 1 => do let a ← pick alpha; let r ← genBytes alpha n; pure (a :: r)

def urlAlpha : Bytes := "abcdefghijklmnopqrstuvwxyzABCXYZ0123456789/:.-_~?=#%+&@,".toUTF8.toList
def titleAlpha : Bytes := "abcdefghijklmnopqrstuvwxyzABCXYZ0123456789   '(),.!?<>:;-".toUTF8.toList
def codeAlpha : Bytes := "abcdefghijklmnopqrstuvwxyzABC012   `*_[]()<>&\\\"'#-+.!|~$^{}=:;/".toUTF8.toList

def genUrl (angle : Bool) : Gen Bytes := do
  let n ← below 12
  let u ← genBytes urlAlpha (n + 1)
  if angle && (← chance 1 4) then pure (u ++ [0x20] ++ (← genBytes urlAlpha 2)) else pure u

def genTitle : Gen Bytes := do
  if ← chance 1 2 then pure [] else
  let n ← below 8
  let t ← genBytes titleAlpha n
  pure ([← pick alnums] ++ t ++ [← pick alnums])

def flipCase (c : UInt8) : UInt8 :=
  if 0x41 ≤ c && c ≤ 0x5A then c + 0x20 else if 0x61 ≤ c && c ≤ 0x7A then c - 0x20 else c

def genCaseVariant : Bytes → Gen Bytes
  | [] => pure []
  | c :: r => do
    let f ← chance 1 2
    let t ← genCaseVariant r
    pure ((if f then flipCase c else c) :: t)

/-- Spelling of a link: inline, or by reference with a fresh random label. -/
def genSpell : Gen Spell := do
  if ← chance 3 5 then pure .inline else
  let l ← genBytes alnums (3 + (← below 6))
  pure (.ref l (← genCaseVariant l) (← chance 1 2))

def genCode : Gen Inl := do
  let n ← below 8
  let s ← genBytes codeAlpha n
  let s := [← pick alnums] ++ s ++ [← pick alnums]
  let m := maxTicks 0 0 s
  pure (.code (m + 1 + (← below 2)) s)

inductive IKind | text | special | code | emph | strong | strike | link | image | autolink | hard | soft
  deriving DecidableEq, Inhabited

def genKind (inLink breaks : Bool) (leafOnly : Bool) : Gen IKind := do
  let k ← below 100
  if k < 12 then pure .code
  else if k < 30 then pure (if leafOnly then .code else .emph)
  else if k < 40 then pure (if leafOnly then .text else .strong)
  else if k < 45 then pure (if leafOnly then .text else .strike)
  else if k < 60 then pure (if inLink || leafOnly then .text else .link)
  else if k < 68 then pure (if leafOnly then .text else .image)
  else if k < 76 then pure (if inLink then .code else .autolink)
  else if k < 84 then pure (if breaks then .hard else .text)
  else if k < 94 then pure (if breaks then .soft else .text)
  else pure .text

/-- Kinds of a sequence of `n` inlines: never two texts in a row, breaks only between others. -/
def genKinds (inLink inBr breaks leafOnly : Bool) : Nat → Option IKind → Gen (List IKind)
  | 0, _ => pure []
  | n + 1, prev => do
    let k ← genKind inLink breaks leafOnly
    let isBrk := k == .hard || k == .soft
    let prevBrk := prev == some .hard || prev == some .soft
    let alt : IKind := if inBr then .special else .code
    let k := if isBrk && (prev.isNone || prevBrk || n == 0) then .text else k
    let k := if prev == some .text && k == .text then alt else k
    let k := if inBr && prev != some .text && k == .text && (← chance 1 4) then .special else k
    let r ← genKinds inLink inBr breaks leafOnly n (some k)
    pure (k :: r)

def isBrk (k : Option IKind) : Bool := k == some .hard || k == some .soft

mutual
/-- Inline content that satisfies `Inls.wf` in the given context (rejection sampling with a
    trivially valid fallback). `edges`: must start and end with a letter or digit of a text. -/
def genInls : Nat → Bool → Bool → Bool → UInt8 → UInt8 → Bool → Gen Inls
  | 0, _, _, _, _, _, _ => pure (.cons (.text [.ch 0x78]) .nil)
  | fuel + 1, inLink, inBr, breaks, prev, after, edges => do
    let fallback : Inls := .cons (.text [.ch 0x78]) .nil
    let attempt : Gen Inls := do
      let n ← below (if fuel == 0 then 2 else 5)
      let mids ← genKinds inLink inBr breaks (fuel == 0) (n + 1) (if edges then some .text else none)
      let kinds := if edges then [IKind.text] ++ (if n == 0 then [] else mids ++ [.text]) else mids
      let kinds := if edges && n != 0 && mids.getLast? == some .text then [IKind.text] ++ mids else kinds
      fillInls fuel inLink inBr breaks edges none kinds
    let tryN : Nat → Gen Inls := fun k => do
      let mut res := fallback
      let mut found := false
      for _ in [0:k] do
        if !found then
          let c ← attempt
          if c.wf inLink inBr breaks prev after true 0 && (!edges || (c.startsAlnum && c.endsAlnum)) then
            res := c
            found := true
      pure res
    tryN 6
def fillInls : Nat → Bool → Bool → Bool → Bool → Option IKind → List IKind → Gen Inls
  | _, _, _, _, _, _, [] => pure .nil
  | fuel, inLink, inBr, breaks, edges, prev, k :: rest => do
    let nxt := rest.head?
    let i ← match k with
      | .special => genSpecial
      | .text => genText inBr (prev.isSome && !isBrk prev && (← chance 4 5)) (nxt.isSome && !isBrk nxt && (← chance 4 5))
                   (edges && prev.isNone) (edges && nxt.isNone)
      | .code => genCode
      | .emph => do pure (.emph (← chance 1 3) (← genInls fuel inLink inBr breaks 0x2A 0x2A true))
      | .strong => do pure (.strong (← chance 1 3) (← genInls fuel inLink inBr breaks 0x2A 0x2A true))
      | .strike => do pure (.strike (← genInls fuel inLink inBr breaks 0x7E 0x7E true))
      | .link => do
        let a ← chance 1 3
        pure (.link (← genUrl a) (← genTitle) a (← genSpell) (← genInls fuel true true breaks 0x5B 0x5D false))
      | .image => do
        let a ← chance 1 3
        pure (.image (← genUrl a) (← genTitle) a (← genInls fuel inLink true breaks 0x5B 0x5D false))
      | .autolink => do pure (.autolink (← below schemeTable.length) (← genBytes urlAlpha (← below 10)))
      | .hard => do pure (.hard (← chance 1 2))
      | .soft => pure .soft
    let r ← fillInls fuel inLink inBr breaks edges (some k) rest
    pure (.cons i r)
end

def infoAlpha : Bytes := "abcdefghijklmnopqrstuvwxyzABC0123456789-+.#_".toUTF8.toList
def lineAlpha : Bytes := "abcdefghijklmnopqrstuvwxyz012    `~*_-+#>[]()<&\\\"'.!|=:;/1".toUTF8.toList

def genLines : Nat → Gen (List Bytes)
  | 0 => pure []
  | n + 1 => do
    let l ← if ← chance 1 6 then pure [] else genBytes lineAlpha (← below 14)
    let r ← genLines n
    pure (l :: r)

def genMarker : Gen Marker := do
  let ordered ← chance 2 5
  let start ← if ← chance 1 2 then pure 1 else
    pick [0, 2, 3, 7, 9, 10, 42, 99, 100, 999, 12345, 999999990, 123456789]
  pure { ordered := ordered, bullet := ← pick [0x2D, 0x2B, 0x2A], start := start, paren := ← chance 1 3, tight := ← chance 1 2 }

/-- One table cell: a line of inline content without breaks (sometimes empty). -/
def genCell (fuel : Nat) : Gen Inls := do
  if ← chance 1 8 then pure .nil else
  let c ← genInls (min fuel 2 + 1) false false false 0x20 0x20 false
  pure (if cellWf c then c else .cons (.text [.ch 0x63]) .nil)

def genCells (fuel : Nat) : Nat → Gen (List Inls)
  | 0 => pure []
  | n + 1 => do let c ← genCell fuel; let r ← genCells fuel n; pure (c :: r)

def genRows (fuel ncols : Nat) : Nat → Gen (List (List Inls))
  | 0 => pure []
  | n + 1 => do let c ← genCells fuel ncols; let r ← genRows fuel ncols n; pure (c :: r)

def genAligns : Nat → Gen (List Align)
  | 0 => pure []
  | n + 1 => do let a ← pick [Align.none, .left, .right, .center]; let r ← genAligns n; pure (a :: r)

def genTable (fuel : Nat) : Gen Blk := do
  let ncols := 1 + (← below 4)
  let nrows ← below 4
  pure (.table (← genAligns ncols) (← genCells fuel ncols) (← genRows fuel ncols nrows))

def htmlAlpha : Bytes := "abcdefghijklmnopqrstuvwxyz012    <>/=\"'*_`[]()&#-.!|:;".toUTF8.toList

def genHtmlLines : Nat → Gen (List Bytes)
  | 0 => pure []
  | n + 1 => do
    let l ← genBytes htmlAlpha (← below 12)
    let r ← genHtmlLines n
    pure (([← pick (alnums ++ "<&*_`[".toUTF8.toList)] ++ l) :: r)

/-- An HTML block of start condition 6: `<tag`, `</tag`, then `>`, ` attr>`, `/>`, or nothing. -/
def genHtmlb : Gen Blk := do
  let tag ← pick html6Tags
  let closing ← chance 1 4
  let tail ← pick ["".toUTF8.toList, ">".toUTF8.toList, ">".toUTF8.toList, " class=\"a b\">".toUTF8.toList, "/>".toUTF8.toList,
                   " id=x>".toUTF8.toList, ">*not emphasis*".toUTF8.toList, " ".toUTF8.toList]
  let more ← genHtmlLines (← below 3)
  pure (.htmlb (([0x3C] ++ (if closing then [0x2F] else []) ++ tag ++ tail) :: more))

mutual
/-- A block that satisfies `Blk.wf` in the given context (fallback: `___`, valid anywhere).
    `ext`: also the constructs of the GFM extensions (tables); with `ext = false` the random stream
    and the documents are those of the first-stage class (the `canon` command, used by C07/C17). -/
def genBlk : Bool → Nat → Bool → UInt8 → Nat → Prev → Gen Blk
  | _, 0, _, _, _, _ => pure (.hr 0x5F 3)
  | ext, fuel + 1, tight, bullet, idx, prevB => do
    let attempt : Gen Blk := do
      let x ← if ext then below 100 else pure 100
      if x < 14 then genTable fuel else
      if x < 21 then genHtmlb else
      let k ← below 100
      if k < 30 then pure (.para (← genInls (min fuel 3 + 1) false false true 0x0A 0x0A false))
      else if k < 40 then pure (.heading (1 + (← below 6)) (← genInls (min fuel 3 + 1) false false false 0x20 0x0A false))
      else if k < 44 then pure (.setext (1 + (← below 2)) (2 + (← below 5)) (← genInls (min fuel 3 + 1) false false true 0x0A 0x0A false))
      else if k < 49 then pure (.hr (← pick [0x2A, 0x2D, 0x5F]) (3 + (← below 4)))
      else if k < 54 then
        let n ← below 3
        let first ← genBytes lineAlpha (← below 10)
        let mid ← genLines n
        let last ← genBytes lineAlpha (← below 10)
        let a ← pick alnums
        let b ← pick alnums
        pure (.icode ([[a] ++ first] ++ (if n == 0 then [] else mid ++ [[b] ++ last])))
      else if k < 60 then
        let n ← below 5
        let il ← below 6
        let info0 ← genBytes infoAlpha (1 + il)
        let info := if ← chance 1 3 then [] else info0
        pure (.fence (← pick [0x60, 0x7E]) (3 + (← below 3)) info (← genLines n))
      else if fuel == 0 then pure (.para (← genInls 1 false false true 0x0A 0x0A false))
      else if k < 75 then pure (.quote (← genBlks ext fuel false 0 0 .none (1 + (← below 3))))
      else
        let m ← genMarker
        pure (.list m (← genItems ext fuel m (1 + (← below 3))))
    let mut res : Blk := .hr 0x5F 3
    let mut found := false
    for _ in [0:6] do
      if !found then
        let c ← attempt
        if c.wf tight bullet idx prevB then
          res := c
          found := true
    pure res
def genBlks : Bool → Nat → Bool → UInt8 → Nat → Prev → Nat → Gen Blks
  | _, 0, _, _, _, _, _ => pure .nil
  | _, _, _, _, _, _, 0 => pure .nil
  | ext, fuel + 1, tight, bullet, idx, prevB, n + 1 => do
    let b ← genBlk ext fuel tight bullet idx prevB
    -- in a tight item nothing can follow an HTML block (only a blank line ends it)
    let r ← if tight && b.isHtml then pure Blks.nil else genBlks ext fuel tight bullet (idx + 1) b.asPrev n
    pure (.cons b r)
def genItems : Bool → Nat → Marker → Nat → Gen Items
  | _, 0, _, _ => pure .nil
  | _, _, _, 0 => pure .nil
  | ext, fuel + 1, m, n + 1 => do
    let k ← below 3
    let bs ← genBlks ext fuel m.tight (if m.ordered then 0 else m.bullet) 0 .none (1 + (if fuel == 0 then 0 else k))
    let bs := if bs.isNil then Blks.cons (.hr 0x5F 3) .nil else bs
    let t : Task ← if ext && bs.startsPara then pick [Task.no, .no, .no, .unchecked, .checked 0x78, .checked 0x58] else pure Task.no
    let r ← genItems ext fuel m n
    pure (.cons t bs r)
end

/-! ### Footnotes: a second pass over the generated blocks puts references `[^name]` at random
places (outside link text and image descriptions) and numbers them the way comrak's footnote pass
does, in document order. -/

structure SpS where
  rng : UInt64
  /-- the notes referenced so far, with their reference counts, in the order of first reference -/
  seen : List (Bytes × Nat) := []
  /-- names to choose from -/
  pool : List Bytes := []

def SpS.coin (s : SpS) (num den : Nat) : Bool × SpS :=
  let (x, r) := nextU s.rng
  (decide ((x >>> 11).toNat % den < num), { s with rng := r })

/-- A reference to a name of the pool, numbered. -/
def SpS.ref (s : SpS) : Inl × SpS :=
  let (x, r) := nextU s.rng
  let name := s.pool.getD ((x >>> 11).toNat % s.pool.length) [0x31]
  match s.seen.findIdx? (fun p => p.1 == name) with
  | some i =>
    let c := (s.seen.getD i ([], 0)).2
    (.fnref name (c + 1) (i + 1), { s with rng := r, seen := s.seen.set i (name, c + 1) })
  | none => (.fnref name 1 (s.seen.length + 1), { s with rng := r, seen := s.seen ++ [(name, 1)] })

mutual
def _root_.Comrak.Canon.Inl.sprinkle (s : SpS) : Inl → Inl × SpS
  | .emph us cs => let (c, s) := cs.sprinkle s false; (.emph us c, s)
  | .strong us cs => let (c, s) := cs.sprinkle s false; (.strong us c, s)
  | .strike cs => let (c, s) := cs.sprinkle s false; (.strike c, s)
  | i => (i, s)
/-- `atEnd`: a reference may follow the last inline (not inside emphasis, whose content must end
    with a letter or digit). -/
def _root_.Comrak.Canon.Inls.sprinkle (s : SpS) (atEnd : Bool) : Inls → Inls × SpS
  | .nil => (.nil, s)
  | .cons i r =>
    let (i', s) := i.sprinkle s
    let (b, s) := s.coin 1 7
    let fits := (atEnd || !r.isNil) && i'.lastB != 0x21 && !(r.firstB 0x0A == 0x5B || r.firstB 0x0A == 0x28 || r.firstB 0x0A == 0x3A)
    if b && fits then
      let (f, s) := s.ref
      let (r', s) := r.sprinkle s atEnd
      (.cons i' (.cons f r'), s)
    else
      let (r', s) := r.sprinkle s atEnd
      (.cons i' r', s)
end

def sprinkleCells (s : SpS) : List Inls → List Inls × SpS
  | [] => ([], s)
  | c :: r => let (c', s) := c.sprinkle s true; let (r', s) := sprinkleCells s r; (c' :: r', s)

def sprinkleRows (s : SpS) : List (List Inls) → List (List Inls) × SpS
  | [] => ([], s)
  | c :: r => let (c', s) := sprinkleCells s c; let (r', s) := sprinkleRows s r; (c' :: r', s)

mutual
def _root_.Comrak.Canon.Blk.sprinkle (s : SpS) : Blk → Blk × SpS
  | .para is => let (c, s) := is.sprinkle s true; (.para c, s)
  | .heading l is => let (c, s) := is.sprinkle s true; (.heading l c, s)
  | .setext l n is => let (c, s) := is.sprinkle s true; (.setext l n c, s)
  | .quote bs => let (c, s) := bs.sprinkle s; (.quote c, s)
  | .list m items => let (c, s) := items.sprinkle s; (.list m c, s)
  | .table al h rows => let (h', s) := sprinkleCells s h; let (r', s) := sprinkleRows s rows; (.table al h' r', s)
  | b => (b, s)
def _root_.Comrak.Canon.Blks.sprinkle (s : SpS) : Blks → Blks × SpS
  | .nil => (.nil, s)
  | .cons b r => let (b', s) := b.sprinkle s; let (r', s) := r.sprinkle s; (.cons b' r', s)
def _root_.Comrak.Canon.Items.sprinkle (s : SpS) : Items → Items × SpS
  | .nil => (.nil, s)
  | .cons t bs r => let (b', s) := bs.sprinkle s; let (r', s) := r.sprinkle s; (.cons t b' r', s)
end

/-- 1..4 names, distinct up to letter case. -/
def genPool : Nat → Gen (List Bytes)
  | 0 => pure []
  | n + 1 => do
    let nm ← genBytes alnums (1 + (← below 4))
    let r ← genPool n
    pure (if (r.map lowerB).contains (lowerB nm) then r else nm :: r)

def genNoteBody : Gen Inls := do
  let c ← genInls 3 false false false 0x0A 0x0A false
  pure (if c.wf false false false 0x0A 0x0A true 0 && c.fnrefs.isEmpty then c else .cons (.text [.ch 0x6E]) .nil)

def genNotes : List (Bytes × Nat) → Gen (List Note)
  | [] => pure []
  | (nm, total) :: r => do
    let b ← genNoteBody
    let rest ← genNotes r
    pure ({ name := nm, total := total, body := b } :: rest)

/-- A permutation of `0..n-1`: identity, reversal or a rotation. -/
def genOrder (n : Nat) : Gen (List Nat) := do
  let k ← below 3
  let ids := List.range n
  if k == 0 then pure ids
  else if k == 1 then pure ids.reverse
  else let j ← below (n + 1); pure (ids.drop j ++ ids.take j)

/-- Shadowed definitions: for some used labels a later definition with another destination (it
    must lose), and some definitions nothing refers to. -/
def genShadow : List RefDef → Gen (List RefDef)
  | [] => do
    if ← chance 1 4 then
      pure [{ label := ← genBytes alnums 4, url := ← genUrl false, title := ← genTitle, angle := false, before := false }]
    else pure []
  | d :: r => do
    let rest ← genShadow r
    if ← chance 1 3 then
      let a ← chance 1 3
      pure ({ label := ← genCaseVariant d.label, url := ← genUrl a, title := ← genTitle, angle := a, before := false } :: rest)
    else pure rest

/-- References sprinkled over the blocks, then the definitions (for half of the documents). -/
def genFootnotes (bs : Blks) : Gen (Blks × List Note × List Nat × List Note) := do
  if ← chance 1 2 then pure (bs, [], [], []) else
  let pool ← genPool (1 + (← below 4))
  let r0 ← nextU
  let sp : Blks × SpS := if pool.isEmpty then (bs, { rng := 0 }) else bs.sprinkle { rng := r0, pool := pool }
  let notes ← genNotes sp.2.seen
  let order ← genOrder notes.length
  let u ← chance 1 4
  let nm ← genBytes alnums 6
  let ub ← genNoteBody
  let unused : List Note := if u then [{ name := [0x75] ++ nm, total := 0, body := ub }] else []
  pure (sp.1, notes, order, unused)

def genDocTry (ext : Bool) (seed size salt : Nat) : Doc :=
  let fuel := 2 + min 6 (size / 2)
  let n := 1 + size % 4 + size / 6
  let g : Gen Doc := do
    let bs ← genBlks ext fuel false 0 0 .none n
    -- footnotes (whole class only; no random draw otherwise, so that `canon` keeps its documents)
    let fx ← if ext then genFootnotes bs else pure (bs, [], [], [])
    let (bs2, notes, order, unused) := fx
    let sh ← genShadow (bs2.defs ++ notes.flatMap fun n => n.body.defs)
    let d : Doc := { blocks := bs2, shadow := sh, notes := notes, noteOrder := order, unused := unused }
    let d1 : Doc := { blocks := bs2, shadow := [], notes := notes, noteOrder := order, unused := unused }
    let d2 : Doc := { blocks := bs, shadow := [] }
    pure (if d.ok then d else if d1.ok then d1 else d2)
  g.run' (seedOf (seed * 64 + size + salt * 1000003)) |> Id.run

def genDoc (ext : Bool) (seed size : Nat) : Doc :=
  let rec go : Nat → Nat → Doc
    | 0, _ => { blocks := .nil }
    | k + 1, salt => let d := genDocTry ext seed size salt; if d.ok then d else go k (salt + 1)
  go 5 0

def answer (ext : Bool) (seed size : String) : Except String String := do
  let seed ← (seed.toNat?.map Except.ok).getD (.error "bad-seed")
  let size ← (size.toNat?.map Except.ok).getD (.error "bad-size")
  let d := genDoc ext seed size
  -- `canon2` appends the tree with the positions of `Doc.toTreeP` after a `|` token
  pure (outBool d.ok ++ " " ++ outHex d.write ++ " " ++ outHex d.refHtml ++ " " ++ Wire.print d.toTree ++
    (if ext then " | " ++ Wire.print d.toTreeP ++ " | " ++ outBool d.posOk else ""))

/-! ## `canoncm`: documents of the class of `C17.cm_fixed_point_canon_partial`

`canoncm <seed> <size>` answers `<hyp> <eq> <hex write d> <tree wire of toTree d>`: `hyp` = the
hypotheses of the theorem hold (`d.ok && d.cmOk`), `eq` = the evaluated
`renderCm {} d.toTree == d.write` (the theorem says `hyp` implies `eq`). -/

def genCmWord : Gen (List Atom) := do
  let n ← below 5
  let first ← genAlnum
  let rest ← genPlains n
  let last ← genAlnum
  -- sometimes one of the marks the writer escapes everywhere, written as a backslash escape
  let esc : List Atom ← if ← chance 1 4 then pure [Atom.esc (← pick [0x2A, 0x5F, 0x5B, 0x5D, 0x23, 0x3C, 0x3E, 0x5C, 0x60, 0x21])]
    else pure []
  pure (if n == 0 then [first] else [first] ++ rest.filter (fun a => !a.isSpace) ++ esc ++ [last])

/-- Words separated by single spaces. -/
def genCmText (lead trail : Bool) : Gen Inl := do
  let n ← below 3
  let w0 ← genCmWord
  let mut as := w0
  for _ in [0:n] do
    let w ← genCmWord
    as := as ++ [.ch 0x20] ++ w
  pure (.text ((if lead then [.ch 0x20] else []) ++ as ++ (if trail then [.ch 0x20] else [])))

def genCmSpan : Gen Inl := do
  let k ← below 8
  let t ← genCmText false false
  if k == 7 then
    if ← chance 1 2 then pure (.strike (Inls.ofList [t]))
    else pure (.autolink (← pick [0, 1, 2, 4]) (← genBytes alnums (1 + (← below 6))))   -- not `mailto:`
  else
  if k ≥ 5 then
    let url ← genUrl false
    let title ← genTitle
    let title := title.filter fun c => !(c == 0x3C || c == 0x3E)
    -- inside brackets `Doc.ok` wants escapes in text nodes of their own: keep the link text plain
    let t : Inl := match t with
      | .text as => .text (as.filter fun a => match a with | .esc _ => false | _ => true)
      | x => x
    if k == 5 then pure (.link url title false .inline (Inls.ofList [t]))
    else pure (.image url title false (Inls.ofList [t]))
  else
  if k == 0 then pure (.emph false (Inls.ofList [t]))
  else if k == 1 then pure (.strong false (Inls.ofList [t]))
  else if k == 2 then
    let w ← genBytes alnums (1 + (← below 6))
    pure (.code 1 w)
  else if k == 3 then
    let a ← genCmText false true
    let c ← genCmText true false
    pure (.strong false (Inls.ofList [a, .emph false (Inls.ofList [t]), c]))
  else
    let a ← genCmText false true
    let c ← genCmText true false
    pure (.emph false (Inls.ofList [a, .strong false (Inls.ofList [t]), c]))

/-- Text, spans between texts, sometimes a soft or hard break before a last text. -/
def genCmInls (breaks : Bool) : Gen Inls := do
  let n ← below 3
  let mut out : List Inl := []
  if n == 0 then
    out := [← genCmText false false]
  else
    out := [← genCmText false true]
    for i in [0:n] do
      let x ← genCmSpan
      let t ← genCmText true (i + 1 < n)
      out := out ++ [x, t]
  if breaks && (← chance 1 3) then
    let b : Inl := if ← chance 1 2 then .soft else .hard true
    out := out ++ [b, ← genCmText false false]
  pure (Inls.ofList out)

def genCmLeaf : Gen Blk := do
  if ← chance 1 4 then pure (.heading (1 + (← below 6)) (← genCmInls false))
  else pure (.para (← genCmInls true))

def genCmList : Nat → Bool → Gen Blk
  | 0, _ => genCmLeaf
  | fuel + 1, top => do
    let tight ← if top then chance 2 3 else pure true
    let n ← below 3
    let mut items : List (Task × Blks) := []
    for _ in [0:if tight then n + 1 else n + 2] do
      -- a task marker stands before a paragraph
      let task : Task ← if ← chance 1 4 then (do if ← chance 1 2 then pure Task.unchecked else pure (Task.checked (← pick [0x78, 0x58])))
        else pure Task.no
      let first ← if task.isTask then (do pure (Blk.para (← genCmInls true))) else genCmLeaf
      let nested ← if tight && (← chance 1 3) then pure [← genCmList fuel false] else pure []
      let more ← if tight && nested.isEmpty && (← chance 1 5) then
          pure [Blk.heading (1 + (← below 6)) (← genCmInls false)] else pure []
      items := items ++ [(task, Blks.ofList ([first] ++ more ++ nested))]
    let ordered ← chance 2 5
    let start ← if !top || (← chance 1 2) then pure 1 else pick [0, 2, 7, 9, 10, 42, 99, 100, 999, 999999990]
    pure (.list { ordered := ordered, start := start, paren := ← chance 1 3, tight := tight } (Items.ofListT items))

def genCmBlk (fuel : Nat) : Gen Blk := do
  let k ← below 10
  if k < 3 then genCmLeaf
  else if k < 4 then pure (.hr 0x2D 5)
  else if k < 6 then pure (.quote (Blks.ofList [← if ← chance 1 3 then genCmList fuel false else genCmLeaf]))
  else genCmList fuel true

def genCmDocTry (seed size salt : Nat) : Doc :=
  let g : Gen Doc := do
    let n := 1 + size % 4 + size / 6
    let mut bs : List Blk := []
    for _ in [0:n] do
      let b ← genCmBlk (1 + min 3 (size / 3))
      -- the writer separates two lists by a comment: keep them apart
      let sep : List Blk := match bs.getLast?, b with
        | some (.list ..), .list .. => [.hr 0x2D 5]
        | _, _ => []
      bs := bs ++ sep ++ [b]
    pure { blocks := Blks.ofList bs }
  g.run' (seedOf (seed * 64 + size + salt * 1000003 + 77)) |> Id.run

def genCmDoc (seed size : Nat) : Doc :=
  let rec go : Nat → Nat → Doc
    | 0, _ => { blocks := .nil }
    | k + 1, salt => let d := genCmDocTry seed size salt; if d.ok && d.cmOk then d else go k (salt + 1)
  go 5 0

def answerCm (seed size : String) : Except String String := do
  let seed ← (seed.toNat?.map Except.ok).getD (.error "bad-seed")
  let size ← (size.toNat?.map Except.ok).getD (.error "bad-size")
  let d := genCmDoc seed size
  pure (outBool (d.ok && d.cmOk) ++ " " ++ outBool (Cm.renderCm {} d.toTree == d.write) ++ " " ++ outHex d.write ++ " " ++
    Wire.print d.toTree)

def handle : Handler := fun cmd args =>
  match cmd, args with
  | "canon", [seed, size] => some (answer false seed size)
  | "canon2", [seed, size] => some (answer true seed size)
  | "canoncm", [seed, size] => some (answerCm seed size)
  | _, _ => none

end Comrak.Drv.Canon
