/-
Positions of canonical documents, layer D: lines of a block that stand in the source (`Emb`), the
spans of whole lines (`spanLines`), and the end position of inline content that runs over several lines.
-/
import Comrak.Lemmas.CanonPosC
namespace Comrak.Canon
open Comrak Bytes

theorem emb_get {G : List Bytes} {c0 : Nat} : ∀ (ls : List Bytes) (l c k : Nat), Emb G c0 l c ls → k < ls.length →
    nth ls k ≠ [] →
    1 ≤ l + k ∧ l + k ≤ G.length ∧ ∃ P, nth G (l + k - 1) = P ++ nth ls k ∧ P.length + 1 = (if k = 0 then c else c0)
  | [], _, _, _, _, h, _ => by simp at h
  | x :: rest, l, c, 0, he, _, hx => he.1 hx
  | x :: rest, l, c, k + 1, he, hk, hx => by
    have ih := emb_get rest (l + 1) c0 k he.2 (Nat.lt_of_succ_lt_succ hk) hx
    rw [ite_self] at ih
    rw [show l + (k + 1) = l + 1 + k from by omega, if_neg (Nat.succ_ne_zero k)]
    exact ih

theorem emb_append {G : List Bytes} {c0 : Nat} : ∀ (xs ys : List Bytes) (l c : Nat), Emb G c0 l c (xs ++ ys) →
    Emb G c0 l c xs ∧ Emb G c0 (l + xs.length) (if xs.isEmpty then c else c0) ys
  | [], ys, l, c, h => ⟨trivial, by simpa using h⟩
  | x :: xs, ys, l, c, h => by
    obtain ⟨i1, i2⟩ := emb_append xs ys (l + 1) c0 h.2
    refine ⟨⟨h.1, i1⟩, ?_⟩
    have e : l + (x :: xs).length = l + 1 + xs.length := by simp only [List.length_cons]; omega
    rw [e]
    simpa using i2

theorem getLastD_nth (ls : List Bytes) : ls.getLastD [] = nth ls (ls.length - 1) := by
  rw [nth_eq, List.getLastD_eq_getLast?, List.getLast?_eq_getElem?]

/-- End position of a block written as the lines `ls`. -/
def endOf (l c0 c1 : Nat) (ls : List Bytes) : Pos :=
  (l + ls.length - 1, (if ls.length ≤ 1 then c1 else c0) - 1 + (ls.getLastD []).length)

theorem valid_of_lines {G : List Bytes} {sp : Sp} {a b : Nat} {P U W R : Bytes} (ha : sp.sl = a + 1) (hb : sp.el = b + 1)
    (hab : a ≤ b) (hbG : b < G.length) (hs : nth G a = P ++ U) (he : nth G b = W ++ R)
    (e3 : sp.sc = P.length + 1) (e4 : sp.ec = W.length) (hW : W ≠ []) (hord : a = b → P.length < W.length) : Valid G sp := by
  have hw : 1 ≤ W.length := List.length_pos_iff.mpr hW
  refine ⟨ha ▸ Nat.le_add_left 1 a, ha ▸ hb ▸ Nat.succ_le_succ hab, hb ▸ hbG, e3 ▸ Nat.le_add_left 1 _, ?_, Or.inl ⟨e4 ▸ hw, ?_⟩, ?_⟩
  · simp only [lenAt, ha, Nat.add_sub_cancel, hs, List.length_append, e3]; omega
  · simp only [lenAt, hb, Nat.add_sub_cancel, he, List.length_append, e4]; omega
  · rw [ha, hb, e3, e4]
    rcases Nat.lt_or_eq_of_le hab with h | h
    · exact Or.inl (Nat.succ_lt_succ h)
    · exact Or.inr ⟨by rw [h], Or.inl (hord h)⟩

section spans
variable (G : List Bytes)

theorem span_single (hG : cleanG G = true) (x : Bytes) (l c0 c : Nat) (hE : Emb G c0 l c [x]) (hx : x ≠ []) :
    Valid G (spanLines l c [x]) ∧ (spanLines l c [x]).ec = lenAt G (spanLines l c [x]).el ∧
      sliceLT (lineEnts (joinLines G)) (joinLines G) (spanLines l c [x]) = some x := by
  obtain ⟨h1, h2, P, hP, rfl⟩ := hE.1 hx
  obtain ⟨k, rfl⟩ := exists_add_one h1
  rw [Nat.add_sub_cancel] at hP
  have hsp : spanLines (k + 1) (P.length + 1) [x] = ⟨k + 1, P.length + 1, k + 1, (P ++ x).length⟩ := by
    simp [spanLines]
  rw [hsp]
  exact ⟨valid_of_lines rfl rfl (Nat.le_refl _) h2 hP (by rw [hP, List.append_nil]) rfl rfl (by simp [hx])
      (fun _ => by have := List.length_pos_iff.mpr hx; simp only [List.length_append]; omega),
    by simp only [lenAt, Nat.add_sub_cancel, hP],
    slice_line G hG (k + 1) h1 h2 P x [] (by simpa using hP) _ rfl rfl rfl (by simp)⟩

theorem span_multi (hG : cleanG G = true) (ls : List Bytes) (l c : Nat) (hE : Emb G c l c ls) (hn : 2 ≤ ls.length)
    (hf : nth ls 0 ≠ []) (hl : ls.getLastD [] ≠ []) :
    Valid G (spanLines l c ls) ∧ (spanLines l c ls).ec = lenAt G (spanLines l c ls).el ∧
      ∃ mid, sliceLT (lineEnts (joinLines G)) (joinLines G) (spanLines l c ls) = some (nth ls 0 ++ 0x0A :: mid ++ ls.getLastD []) := by
  obtain ⟨n, hn'⟩ := Nat.exists_eq_add_of_le' hn
  obtain ⟨a1, a2, P, hP, hPl⟩ := emb_get ls l c 0 hE (hn' ▸ Nat.succ_pos _) hf
  have hlast := getLastD_nth ls
  rw [hn', show n + 2 - 1 = n + 1 from rfl] at hlast
  obtain ⟨b1, b2, Q, hQ, hQl⟩ := emb_get ls l c (n + 1) hE (hn' ▸ Nat.lt_succ_self _) (by rw [← hlast]; exact hl)
  rw [← hlast] at hQ
  simp only [Nat.add_one_ne_zero, if_false] at hQl
  simp only [Nat.add_zero, if_true] at hP hPl a1
  obtain ⟨k, rfl⟩ := exists_add_one a1
  subst hPl
  have e1 : k + 1 + (n + 1) - 1 = k + 1 + n := rfl
  rw [Nat.add_sub_cancel] at hP
  rw [e1] at hQ
  have hsp : spanLines (k + 1) (P.length + 1) ls = ⟨k + 1, P.length + 1, k + 1 + n + 1, (Q ++ ls.getLastD []).length⟩ := by
    simp only [spanLines, hn', List.length_append, Nat.add_sub_cancel, ← hQl]; rfl
  rw [hsp]
  have hv : Valid G ⟨k + 1, P.length + 1, k + 1 + n + 1, (Q ++ ls.getLastD []).length⟩ :=
    valid_of_lines (a := k) (b := k + 1 + n) rfl rfl (Nat.le_trans (Nat.le_add_right k 1) (Nat.le_add_right _ n)) b2 hP (by rw [hQ, List.append_nil]) rfl rfl
      (fun e => hl (List.append_eq_nil_iff.mp e).2) (fun h => by omega)
  refine ⟨hv, by simp only [lenAt, Nat.add_sub_cancel, hQ], ?_⟩
  have := slice_multi G hG ⟨k + 1, P.length + 1, k + 1 + n + 1, (Q ++ ls.getLastD []).length⟩ (Nat.le_add_left 1 k)
    (Nat.lt_succ_of_le (Nat.le_add_right _ n)) b2 P (nth ls 0) (Q ++ ls.getLastD []) [] (by simpa using hP) (by simpa using hQ) rfl rfl
  exact ⟨joinLines (((G.take (k + 1 + n)).drop (k + 1))) ++ Q, by rw [this]; simp⟩

theorem atLineEnd_of (hG : cleanG G = true) (v : NodeValue) (sp : Sp) (h1 : 1 ≤ sp.sl) (h2 : sp.sl ≤ sp.el) (h3 : sp.el ≤ G.length)
    (hc : sp.sc ≠ 0) (he : sp.ec = lenAt G sp.el) :
    sliceEndFail (lineEnts (joinLines G)) (joinLines G) v sp = none := by
  cases v <;> first | rfl | skip
  obtain ⟨a, ha⟩ := exists_add_one h1
  obtain ⟨b, hb⟩ := exists_add_one (Nat.le_trans h1 h2)
  obtain ⟨c, hc⟩ := Nat.exists_eq_add_one_of_ne_zero hc
  simp only [lenAt, hb, Nat.add_sub_cancel] at he
  have hbG : b + 1 ≤ G.length := by rw [← hb]; exact h3
  have haG : a + 1 ≤ G.length := by rw [← ha]; exact Nat.le_trans h2 h3
  have hmem : (⟨offG G b, (nth G b).length, 1⟩ : LineEnt) ∈ lineEnts (joinLines G) := by
    have := lineAt_join G hG b hbG
    simp only [lineAt, Nat.add_one_ne_zero, if_false, Nat.add_sub_cancel] at this
    exact List.mem_of_getElem? this
  have : atLineEnd (lineEnts (joinLines G)) (joinLines G) (offG G b + sp.ec) = true := by
    simp only [atLineEnd, List.any_eq_true]
    exact ⟨_, hmem, by simp [he]⟩
  simp only [sliceEndFail, spOffsets_join G hG sp a b c haG hbG ha hb hc, this, if_true]

end spans

theorem adv_splitNl (c0 : Nat) : ∀ (s : Bytes) (l c : Nat),
    adv c0 (l, c) s = (l + (splitNl s).length - 1,
      (if (splitNl s).length ≤ 1 then c else c0) + ((splitNl s).getLastD []).length)
  | [], l, c => by simp [adv_nil, splitNl]
  | b :: r, l, c => by
    have hne := splitNl_ne_nil r
    have hpos : 0 < (splitNl r).length := List.length_pos_iff.mpr hne
    by_cases hb : b = 0x0A
    · subst hb
      rw [adv_cons, splitNl_nl]
      have : step c0 (l, c) 0x0A = (l + 1, c0) := by simp [step]
      rw [this, adv_splitNl c0 r (l + 1) c0]
      have e2 : ¬ (([] : Bytes) :: splitNl r).length ≤ 1 := by simp only [List.length_cons]; omega
      rw [ite_self, if_neg e2]
      cases hs : splitNl r with
      | nil => exact absurd hs hne
      | cons x t => simp; omega
    · rw [adv_cons, splitNl_other b r hb]
      have : step c0 (l, c) b = (l, c + 1) := by simp [step, hb]
      rw [this, adv_splitNl c0 r l (c + 1)]
      cases hs : splitNl r with
      | nil => exact absurd hs hne
      | cons x t =>
        cases t with
        | nil => simp; omega
        | cons y t' => simp

theorem splitNl_append_nl : ∀ (d : Bytes), splitNl (d ++ [0x0A]) = splitNl d ++ [[]]
  | [] => by simp [splitNl]
  | x :: d => by
    have hne := splitNl_ne_nil d
    by_cases hx : x = 0x0A
    · subst hx
      rw [List.cons_append, splitNl_nl, splitNl_nl, splitNl_append_nl d]; rfl
    · rw [List.cons_append, splitNl_other x _ hx, splitNl_other x _ hx, splitNl_append_nl d]
      cases hq : splitNl d with
      | nil => exact absurd hq hne
      | cons y t => simp

theorem adv_dropLast_end (c0 : Nat) (s : Bytes) (l c : Nat) (h0 : 1 ≤ c0) (h1c : 1 ≤ c) (hl : (splitNl s).getLastD [] ≠ []) :
    adv c0 (l, c) s.dropLast = endOf l c0 c (splitNl s) := by
  have hs : s ≠ [] := by
    intro e; subst e; simp [splitNl] at hl
  obtain ⟨b, hb⟩ := dropLast_append_last s hs
  have h1 := adv_splitNl c0 s l c
  have hbn : b ≠ 0x0A := by
    intro e
    subst e
    rw [hb, splitNl_append_nl] at hl
    simp at hl
  have h2 : adv c0 (l, c) s = step c0 (adv c0 (l, c) s.dropLast) b := by
    conv => lhs; rw [hb]
    rw [adv_append]; rfl
  rw [h1] at h2
  have hpos := List.length_pos_iff.mpr hl
  simp only [step, hbn, if_false] at h2
  obtain ⟨e1, e2⟩ := Prod.mk.inj h2
  simp only [endOf]
  apply Prod.ext
  · simp only; omega
  · simp only
    by_cases hc : (splitNl s).length ≤ 1
    · simp only [hc, if_true] at e2 ⊢; omega
    · simp only [hc, if_false] at e2 ⊢; omega

end Comrak.Canon
