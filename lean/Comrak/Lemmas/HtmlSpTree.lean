/-
C18 helper lemmas, whole trees: rendering is a sequence of `enter`, the children and `exit`, and erasure
distributes over sequences, so the per-node equations lift to trees of any depth and width.
-/
import Comrak.Lemmas.HtmlSp
namespace Comrak
open Bytes

mutual
theorem renderT_eraseSp (o : HtmlOpts) (nt : NormTable) :
    ∀ (t : Tree) (cx : Ctx), W.eraseSp (renderT (withSp o true) nt cx t) = renderT (withSp o false) nt cx t
  | .node v sp cs, cx => by
    rw [renderT_seq, renderT_seq, W.eraseSp_seq, W.eraseSp_seq, enter_withSp, W.eraseSp_ite, W.eraseSp_nop,
      renderF_eraseSp o nt cs, exit_withSp, exit_withSp, exit_fixed]
theorem renderF_eraseSp (o : HtmlOpts) (nt : NormTable) :
    ∀ (f : Forest) (parent grand prev : Option NodeValue) (idx : Nat),
      W.eraseSp (renderF (withSp o true) nt parent grand prev idx f) = renderF (withSp o false) nt parent grand prev idx f
  | .nil, _, _, _, _ => rfl
  | .cons t ts, parent, grand, prev, idx => by
    rw [renderF_seq, renderF_seq, W.eraseSp_seq, renderT_eraseSp o nt t, renderF_eraseSp o nt ts]
end

theorem renderF_withSp (o : HtmlOpts) (nt : NormTable) :
    ∀ (f : Forest) (parent grand prev : Option NodeValue) (idx : Nat) (st : St),
      eraseSp (renderF (withSp o true) nt parent grand prev idx f st).1 = (renderF (withSp o false) nt parent grand prev idx f st).1 ∧
      (renderF (withSp o true) nt parent grand prev idx f st).2 = (renderF (withSp o false) nt parent grand prev idx f st).2 :=
  fun f parent grand prev idx st =>
    ⟨congrArg (fun w => (w st).1) (renderF_eraseSp o nt f parent grand prev idx),
     congrArg (fun w => (w st).2) (renderF_eraseSp o nt f parent grand prev idx)⟩

theorem finish_fixed : W.eraseSp finish = finish := by
  funext st
  unfold W.eraseSp finish
  split <;> rfl

end Comrak
