import Lean.Meta.Tactic.Simp.RegisterCommand

/-- Unfolds the spelling of a concrete list of tokens and attributes into one right-nested
    concatenation, the pieces that are names or variables left as they are. -/
register_simp_attr spelled
