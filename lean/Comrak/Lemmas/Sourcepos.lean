/-
Lemmas for C11/C12 about the source-position oracles and mechanism models (Comrak/Sourcepos.lean): the order on
(line, column) pairs in arithmetic form, what a successful slice is, and one induction over `Spx::consume` for
any property of queue elements that survives cutting bytes off the front of an element (`spxConsume_inv`).
-/
import Comrak.Sourcepos
namespace Comrak
open Bytes

theorem posLe_iff {a b c d : Nat} : posLe a b c d = true ↔ a < c ∨ a = c ∧ b ≤ d := by simp [posLe]

theorem posLt_iff {a b c d : Nat} : posLt a b c d = true ↔ a < c ∨ a = c ∧ b < d := by simp [posLt]

theorem posLe_refl (a b : Nat) : posLe a b a b = true := posLe_iff.mpr (.inr ⟨rfl, Nat.le_refl b⟩)

theorem posLe_of_posLt {a b c d : Nat} (h : posLt a b c d = true) : posLe a b c d = true := by
  simp only [posLe_iff, posLt_iff] at *; omega

theorem posLe_of_line_lt {a b c d : Nat} (h : a < c) : posLe a b c d = true := posLe_iff.mpr (.inl h)
theorem posLt_of_line_lt {a b c d : Nat} (h : a < c) : posLt a b c d = true := posLt_iff.mpr (.inl h)
theorem posLe_of_col_le {l x y : Nat} (h : x ≤ y) : posLe l x l y = true := posLe_iff.mpr (.inr ⟨rfl, h⟩)
theorem posLt_of_col_lt {l x y : Nat} (h : x < y) : posLt l x l y = true := posLt_iff.mpr (.inr ⟨rfl, h⟩)

theorem spNested_of {A sp : Sp} (h1 : posLe A.sl A.sc sp.sl sp.sc = true) (h2 : posLe sp.el sp.ec A.el A.ec = true) :
    spNested A sp = true := by
  rw [spNested, h1, h2]; rfl

theorem posLe_trans {a b c d e f : Nat} (h1 : posLe a b c d = true) (h2 : posLe c d e f = true) :
    posLe a b e f = true := by
  simp only [posLe_iff] at *; omega

theorem posLt_of_lt_le {a b c d e f : Nat} (h1 : posLt a b c d = true) (h2 : posLe c d e f = true) :
    posLt a b e f = true := by
  simp only [posLe_iff, posLt_iff] at *; omega

theorem posLt_of_le_lt {a b c d e f : Nat} (h1 : posLe a b c d = true) (h2 : posLt c d e f = true) :
    posLt a b e f = true := by
  simp only [posLe_iff, posLt_iff] at *; omega

/-- Concatenation of the lines with their terminators. -/
def joinLines : List (Bytes × Bytes) → Bytes
  | [] => []
  | (c, t) :: ls => c ++ t ++ joinLines ls

theorem spInRange_eq (lt : List LineEnt) (sp : Sp) :
    spInRange lt sp = (spLinesOk lt sp && spStartColOk lt sp && spEndColOk lt sp && spStartLeEnd sp) := by
  unfold spInRange spRangeFail
  cases spLinesOk lt sp <;> cases spStartColOk lt sp <;> cases spEndColOk lt sp <;>
    cases spStartLeEnd sp <;> rfl

theorem sliceLT_eq_some {lt : List LineEnt} {src : Bytes} {sp : Sp} {b : Bytes}
    (h : sliceLT lt src sp = some b) :
    ∃ a e, spOffsets lt sp = some (a, e) ∧ a ≤ e ∧ e ≤ src.length ∧ b = (src.drop a).take (e - a) := by
  unfold sliceLT at h
  split at h
  · rename_i a e heq
    split at h
    · rename_i hc
      simp only [Bool.and_eq_true, decide_eq_true_eq] at hc
      exact ⟨a, e, heq, hc.1, hc.2, (Option.some.inj h).symm⟩
    · simp at h
  · simp at h

theorem spxBytes_cons (e : Sp × Nat) (q : SpxQ) : spxBytes (e :: q) = e.2 + spxBytes q := by
  simp [spxBytes]

/-- `Spx::consume` keeps any element property `P` that survives cutting `rem < x` bytes off the front of an
    element; `R` relates the returned column to an element of the queue; `lo` (0 or 1) bounds the requests
    from below. -/
theorem spxConsume_inv (P : Sp × Nat → Prop) (R : Nat → Sp × Nat → Prop) (lo : Nat) (hlo1 : lo ≤ 1)
    (hwhole : ∀ e, P e → R e.1.ec e)
    (hcut : ∀ sp x rem, P (sp, x) → lo ≤ rem → rem < x →
      P ({ sp with sc := min (sp.sc + rem) (sp.ec + 1) }, x - rem) ∧
        R (min (sp.sc + rem) (sp.ec + 1) - 1) (sp, x))
    (q : SpxQ) (rem : Nat) (hq : ∀ e ∈ q, P e) (hr : rem ≤ spxBytes q) (hlo : lo ≤ rem) (hne : q ≠ []) :
    ∃ c q', spxConsume q rem = some (c, q') ∧ (∀ e ∈ q', P e) ∧ ∃ e ∈ q, R c e := by
  induction q generalizing rem with
  | nil => exact absurd rfl hne
  | cons e q ih =>
    obtain ⟨sp, x⟩ := e
    obtain ⟨he, hq'⟩ := List.forall_mem_cons.mp hq
    rw [spxBytes_cons] at hr
    simp only [spxConsume]
    split
    · have hne' : q ≠ [] := by
        rintro rfl; simp [spxBytes] at hr; omega
      obtain ⟨c, q', h, hx, e, hm, hc⟩ := ih (rem - x) hq' (by omega) (by omega) hne'
      exact ⟨c, q', h, hx, e, List.mem_cons_of_mem _ hm, hc⟩
    · split
      · exact ⟨sp.ec, q, rfl, hq', (sp, x), List.mem_cons_self, hwhole _ he⟩
      · have ⟨h1, h2⟩ := hcut sp x rem he hlo (by omega)
        exact ⟨_, _, rfl, List.forall_mem_cons.mpr ⟨h1, hq'⟩, (sp, x), List.mem_cons_self, h2⟩

end Comrak
