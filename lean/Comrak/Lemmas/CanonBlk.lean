/-
C03, block level: the model of comrak's HTML formatter on the tree of a canonical document spells
exactly the reference rendering, for any nesting depth (mutual induction over `Blk/Blks/Items`).
-/
import Comrak.Lemmas.CanonTbl
namespace Comrak.Canon
open Comrak Bytes

/-- Parents canonical blocks can have. -/
def okParent : Option NodeValue → Bool
  | some .document => true
  | some .blockQuote => true
  | some (.item _) => true
  | some (.taskItem _) => true
  | _ => false

def pt (p g : Option NodeValue) : Bool := paraTight { parent := p, grand := g }

theorem splitInfo_fst (info : Bytes) (h : info.all (fun b => b != 0x0A && b != 0x0D) = true) :
    (splitInfo info).1 = firstWord info := by
  induction info with
  | nil => rfl
  | cons c r ih =>
    simp only [List.all_cons, Bool.and_eq_true, bne_iff_ne, ne_eq] at h
    have hs : isSpace c = (decide (c = 0x20) || decide (c = 0x09)) := by
      rw [isSpace, beq_eq_false_iff_ne.mpr h.1.1, beq_eq_false_iff_ne.mpr h.1.2, Bool.or_false, Bool.or_false,
        Bool.or_comm]
      rfl
    simp only [splitInfo, firstWord, hs, ih h.2]
    split <;> rfl

theorem codeBlockAttrs_default (info : Bytes) (sp : Sp) :
    codeBlockAttrs {} info sp =
      ([], if info.isEmpty then [] else [⟨S.a_class, some [.esc (S.v_language ++ (splitInfo info).1)]⟩]) := by
  cases info <;> rfl

theorem spell_codeBlock (info lit : Bytes) (sp : Sp) (h : info.all (fun b => b != 0x0A && b != 0x0D) = true) :
    spell [.op S.t_pre (codeBlockAttrs {} info sp).1, .op S.t_code (codeBlockAttrs {} info sp).2,
      .txt lit, .cl S.t_code, .cl S.t_pre, nl] = refCodeOpen info ++ refEsc lit ++ H.code_pre_close := by
  rw [codeBlockAttrs_default, refCodeOpen]
  split
  · simp only [spelled, refEsc_eq]; rfl
  · simp only [spelled, escape_append, splitInfo_fst info h, refEsc_eq]; rfl

section pieces
variable (cx : Ctx) (sp : Sp) (cs : Forest) (lf : Bool)

theorem enter_para : R (enter {} {} cx .paragraph sp cs) lf (if paraTight cx then [] else crB lf ++ H.p_open) := by
  show R (if paraTight cx then W.nop else W.cr ⨟ W.emit [.op S.t_p []]) lf _
  generalize paraTight cx = t
  cases t
  · exact R_cr_emit _ lf
  · exact R_nop lf

/-- Only under a footnote definition does a paragraph end with more than `</p>`. -/
theorem exit_para (hp : okParent cx.parent = true) :
    R (exit {} cx .paragraph cs) lf (if paraTight cx then [] else H.p_close) := by
  unfold exit
  generalize paraTight cx = t
  cases t
  · simp only [Bool.false_eq_true, if_false]
    split
    · next hc => rw [hc] at hp; cases hp
    · exact R_seq (R_nop lf) (R_emit _ _)
  · exact R_nop lf

theorem enter_fence (f : Bool) (c : UInt8) (len off : Nat) (info lit : Bytes) (h : infoSafe info = true) :
    R (enter {} {} cx (.codeBlock f c len off info lit) sp cs) lf
      (crB lf ++ refCodeOpen info ++ refEsc lit ++ H.code_pre_close) := by
  simp only [infoSafe, Bool.and_eq_true, bne_iff_ne, ne_eq] at h
  have hm : (info == S.v_math) = false := beq_eq_false_iff_ne.mpr h.1
  show R (if (info == S.v_math) = true then _ else W.cr ⨟ W.emit [.op S.t_pre (codeBlockAttrs {} info sp).1,
    .op S.t_code (codeBlockAttrs {} info sp).2, .txt lit, .cl S.t_code, .cl S.t_pre, nl]) lf _
  rw [hm]
  exact R_congr (R_cr_emit _ lf) (by rw [spell_codeBlock info lit sp h.2]; simp only [List.append_assoc])

theorem enter_list (m : Marker) (tk : Bool) :
    R (enter {} {} cx (.list { m.nlist m.start m.tight with isTaskList := tk }) sp cs) lf (crB lf ++ refListOpen m) := by
  obtain ⟨ordered, bullet, start, paren, tight⟩ := m
  cases ordered <;> refine R_congr (R_cr_emit _ lf) ?_
  · simp only [Bool.and_false, Bool.false_eq_true, if_false]
    rfl
  · simp only [Marker.nlist, refListOpen, Bool.and_false, Bool.false_eq_true, if_true, if_false]
    split
    · rfl
    · simp only [spelled]; rfl

theorem exit_list (m : Marker) (k : Nat) (t tk : Bool) :
    R (exit {} cx (.list { m.nlist k t with isTaskList := tk }) cs) lf (refListClose m) := by
  obtain ⟨ordered, bullet, start, paren, tight⟩ := m
  cases ordered <;> exact R_emit _ lf

theorem exit_item (l : NList) : R (exit {} cx (.item l) cs) lf H.li_close :=
  R_emit [.cl S.t_li, nl] lf

theorem enter_titem (t : Task) (l : NList) : R (enter {} {} cx (t.value l) sp cs) lf (crB lf ++ (H.li_open ++ t.html)) := by
  cases t <;> exact R_cr_emit _ lf

theorem exit_titem (t : Task) (l : NList) : R (exit {} cx (t.value l) cs) lf H.li_close := by
  cases t <;> exact R_emit [.cl S.t_li, nl] lf

theorem enter_htmlb (lit : Bytes) : R (enter {} {} cx (.htmlBlock 6 lit) sp cs) lf (crB lf ++ H.omitted) :=
  R_congr (R_seq_at (R_cr_emit [.cmt] lf) (lastLfAfter_append_of (v := false) rfl _ _) (R_cr false))
    (List.append_assoc ..)

end pieces

theorem refListOpen_nl (m : Marker) : lastLfAfter false (refListOpen m) = true := by
  unfold refListOpen
  split
  · exact lastLfAfter_append_of (v := true) rfl _ _
  · rfl

theorem refListClose_nl (m : Marker) : lastLfAfter false (refListClose m) = true := by
  unfold refListClose; split <;> rfl

theorem blk_nl (b : Blk) (bol x : Bool) : lastLfAfter x (b.html false bol) = true := by
  cases b with
  | list m items => exact lastLfAfter_append_of (v := true) (refListClose_nl m) _ _
  | table => rw [Blk.html, refTable, ← List.append_assoc]; exact lastLfAfter_append_of (v := true) rfl _ _
  | _ => exact lastLfAfter_append_of (v := true) rfl _ _

theorem blks_nl : ∀ bs : Blks, lastLfAfter true (bs.html false true) = true
  | .nil => rfl
  | .cons b r => by
    simp only [Blks.html]
    rw [lastLfAfter_append, atBol_eq, blk_nl b true true]
    exact blks_nl r

def BlkGoal (b : Blk) : Prop :=
  ∀ (cx : Ctx) (lf : Bool), okParent cx.parent = true →
    R (renderT {} {} cx b.toTree) lf (b.html (paraTight cx) lf)
def BlksGoal (bs : Blks) : Prop :=
  ∀ (p g prev : Option NodeValue) (idx : Nat) (lf : Bool), okParent p = true →
    R (renderF {} {} p g prev idx bs.toForest) lf (bs.html (pt p g) lf)
def ItemsGoal (items : Items) : Prop :=
  ∀ (m : Marker) (k : Nat) (L : NList) (g prev : Option NodeValue) (idx : Nat),
    R (renderF {} {} (some (.list L)) g prev idx (items.toForest m k)) true (items.html L.tight)

theorem pt_quote (g : Option NodeValue) (h : okParent g = true) : pt (some .blockQuote) g = false := by
  unfold pt paraTight
  split
  · next hg => cases hg; cases h
  · next hg => cases hg; cases h
  · rfl

theorem blk_heading (l : Nat) (s : Bool) (is : Inls) (hs : is.safe = true) (cx : Ctx) (lf : Bool) :
    R (renderT {} {} cx (.node (.heading l s) {} is.toForest)) lf
      (crB lf ++ H.h_open ++ ofNatDec l ++ H.gt ++ is.html ++ H.h_close ++ ofNatDec l ++ H.gt_nl) :=
  R_congr (R_node rfl (R_seq (R_cr_emit [.op (headingName l) []] lf) (R_nop _))
      (inls_goal is hs _ _ _ _ _) (R_emit [.cl (headingName l), nl] _))
    (by simp only [spelled, headingName]; rfl)

theorem items_cons (t : Task) (bs : Blks) (r : Items) (hb : BlksGoal bs) (hr : ItemsGoal r) : ItemsGoal (.cons t bs r) :=
  fun m k L g prev idx => by
    rw [Items.toForest, renderF_seq, Items.html]
    let cx : Ctx := ⟨some (.list L), g, prev, (r.toForest m (k + 1)).isNil, idx⟩
    have hv : htmlChildren (t.value (m.nlist k false)) = true := by cases t <;> rfl
    have hc := hb (some (t.value (m.nlist k false))) cx.parent none 0 false (by cases t <;> rfl)
    have e : pt (some (t.value (m.nlist k false))) cx.parent = L.tight := by cases t <;> exact Bool.or_false _
    rw [e] at hc
    have hi := R_node_at (cx := cx) (sp := {}) hv (enter_titem cx {} _ true t _)
      (by cases t <;> exact lastLfAfter_append_of (v := false) rfl _ _) hc rfl (exit_titem cx _ _ t _)
    exact R_congr (R_seq_at hi (lastLfAfter_append_of (v := true) rfl _ _) (hr m (k + 1) L g _ _))
      (by simp only [List.append_assoc]; rfl)

mutual
theorem blk_goal : ∀ b : Blk, b.safe = true → BlkGoal b := by
  intro b h
  cases b with
  | para is =>
    exact fun cx lf hp =>
      R_congr (R_node (sp := {}) rfl (enter_para cx {} is.toForest lf) (inls_goal is h _ _ _ _ _) (exit_para cx _ _ hp))
        (by cases paraTight cx <;> simp only [Blk.html, Bool.false_eq_true, if_true, if_false, List.nil_append,
          List.append_nil, List.append_assoc])
  | heading l is => exact fun cx lf _ => R_congr (blk_heading l false is h cx lf) (by simp only [Blk.html])
  | setext l n is => exact fun cx lf _ => R_congr (blk_heading l true is h cx lf) (by simp only [Blk.html])
  | hr c n => exact fun cx lf _ => R_leaf (R_cr_emit [.vd S.t_hr [], nl] lf) rfl rfl
  | icode ls => exact fun cx lf _ => R_leaf (enter_fence cx {} .nil lf false 0 0 0 [] (joinLines ls) (by decide)) rfl rfl
  | fence c len info ls => exact fun cx lf _ => R_leaf (enter_fence cx {} .nil lf true c len 0 info (joinLines ls) h) rfl rfl
  | quote bs =>
    intro cx lf hp
    have hc := blks_goal bs h (some .blockQuote) cx.parent none 0 true rfl
    rw [pt_quote _ hp] at hc
    exact R_congr (R_node_at (sp := {}) rfl (R_cr_emit [.op S.t_blockquote [], nl] lf)
      (lastLfAfter_append_of (v := true) rfl _ _) hc (blks_nl bs) (R_cr_emit [.cl S.t_blockquote, nl] true))
      (by simp only [Blk.html, List.append_assoc]; rfl)
  | list m items =>
    exact fun cx lf _ =>
      R_congr (R_node_at (sp := {}) rfl (enter_list cx {} (items.toForest m m.start) lf m items.anyTask)
        (lastLfAfter_append_of (v := true) (refListOpen_nl m) _ _)
        (items_goal items h m m.start { m.nlist m.start m.tight with isTaskList := items.anyTask } cx.parent none 0) rfl
        (exit_list cx _ _ m _ _ _)) (by simp only [Blk.html, Marker.nlist, List.append_assoc])
  | htmlb ls => exact fun cx lf _ => R_leaf (enter_htmlb cx {} .nil lf (joinLines ls)) rfl rfl
  | table al hd rows =>
    simp only [Blk.safe, Bool.and_eq_true] at h
    exact fun cx lf _ => table_goal al hd rows h.1 h.2 cx lf
theorem blks_goal : ∀ bs : Blks, bs.safe = true → BlksGoal bs
  | .nil, _ => fun p g prev idx lf _ => by
    rw [Blks.toForest, renderF_nil]; exact R_nop lf
  | .cons b r, h => fun p g prev idx lf hp => by
    simp only [Blks.safe, Bool.and_eq_true] at h
    rw [Blks.toForest, renderF_seq, Blks.html]
    exact R_seq (blk_goal b h.1 _ _ hp) (blks_goal r h.2 _ _ _ _ _ hp)
theorem items_goal : ∀ items : Items, items.safe = true → ItemsGoal items
  | .nil, _ => fun m k L g prev idx => by
    rw [Items.toForest, renderF_nil]; exact R_nop true
  | .cons t bs r, h => by
    simp only [Items.safe, Bool.and_eq_true] at h
    exact items_cons t bs r (blks_goal bs h.1) (items_goal r h.2)
end

end Comrak.Canon
