/-
C20 helper lemmas, CommonMark half: once some bytes are in the output buffer and the recorded
break position is not inside them, nothing the writer does afterwards (pending newlines, line
prefixes, escapes, the re-wrap at the last breakable space) touches them.  The buffer `rv` is
reversed, so "the output starts with `b.reverse`" is "`b` is a suffix of `rv`".
-/
import Comrak.Cm
namespace Comrak.Cm
open Comrak Bytes

/-- `b` is still at the start of the output and the break position is not inside it. -/
def KK (b rv : Bytes) (lb : Nat) : Prop := b <:+ rv ∧ (lb = 0 ∨ b.length ≤ lb)

/-- The invariant on writer states (depends on `rv` and `lastBreakable` only, so record updates
    of other fields keep it by definitional unfolding). -/
abbrev K (b : Bytes) (st : St) : Prop := KK b st.rv st.lastBreakable

theorem suf_cons {b rv : Bytes} (c : UInt8) (h : b <:+ rv) : b <:+ c :: rv :=
  h.trans (List.suffix_cons c rv)
theorem suf_app {b rv : Bytes} (x : Bytes) (h : b <:+ rv) : b <:+ x ++ rv :=
  h.trans (List.suffix_append x rv)

theorem suf_drop {b rv : Bytes} (lb : Nat) (h : b <:+ rv) (hl : b.length ≤ lb) :
    b <:+ rv.drop (rv.length - lb) := by
  obtain ⟨t, rfl⟩ := h
  have hle : (t ++ b).length - lb ≤ t.length := by simp only [List.length_append]; omega
  rw [List.drop_append_of_le_length hle]
  exact List.suffix_append _ _

theorem K_ite {b : Bytes} {x y : St} {c : Prop} [Decidable c] (hx : K b x) (hy : K b y) :
    K b (if c then x else y) := by
  split <;> assumption

theorem K_fmEnd {b : Bytes} {st : St} (fm : Bytes) (h : K b st) : K b (fmEnd fm st) :=
  K_ite ⟨h.1, Or.inl rfl⟩ h

theorem fmEnd_rv (fm : Bytes) (st : St) : (fmEnd fm st).rv = st.rv := by
  unfold fmEnd; split <;> rfl

theorem K_cr {b : Bytes} {st : St} (h : K b st) : K b st.cr := h
theorem K_blankline {b : Bytes} {st : St} (h : K b st) : K b st.blankline := h

theorem crLoop_suf (b rv0 pfx : Bytes) : ∀ (n j : Nat) (rv : Bytes), b <:+ rv → b <:+ crLoop rv0 pfx n j rv
  | 0, _, _, h => h
  | n + 1, j, rv, h => by
    simp only [crLoop]
    split
    · exact crLoop_suf b rv0 pfx n (j + 1) rv h
    · split
      · exact crLoop_suf b rv0 pfx n (j + 1) rv h
      · exact crLoop_suf b rv0 pfx n j _ (suf_app _ (suf_cons _ h))

theorem K_crFlush {b : Bytes} {st : St} (h : K b st) : K b (crFlush st) :=
  K_ite h ⟨crLoop_suf b _ _ _ _ _ h.1, Or.inl rfl⟩

theorem K_pre {b : Bytes} {st : St} (ep : Bool) (c : UInt8) (h : K b st) : K b (pre ep st c) :=
  have h1 : K b (if st.beginLine then { st with rv := st.prefix_.reverse ++ st.rv, column := st.prefix_.length } else st) :=
    K_ite ⟨suf_app _ h.1, h.2⟩ h
  K_ite ⟨suf_cons _ h1.1, h1.2⟩ h1

theorem K_litByte {b : Bytes} {st : St} (c : UInt8) (h : K b st) : K b (litByte st c) :=
  K_ite ⟨suf_cons _ h.1, Or.inl rfl⟩ ⟨suf_cons _ h.1, h.2⟩

theorem K_wrapCheck {b : Bytes} {st : St} (o : CmOpts) (h : K b st) : K b (wrapCheck o st) := by
  unfold wrapCheck
  split
  · rename_i hc
    simp only [Bool.and_eq_true, decide_eq_true_eq] at hc
    -- the break position is positive here, so it lies behind `b`
    have hl : b.length ≤ st.lastBreakable := by
      rcases h.2 with h0 | h1
      · omega
      · exact h1
    refine ⟨?_, Or.inl rfl⟩
    simp only []
    rw [List.append_assoc]
    exact suf_app _ (suf_app _ (suf_cons _ (suf_drop _ h.1 hl)))
  · exact h

theorem K_outLitLoop {b : Bytes} (o : CmOpts) (ep : Bool) :
    ∀ (bs : Bytes) (st : St), K b st → K b (outLitLoop o ep st bs)
  | [], _, h => h
  | c :: r, st, h => by
    simp only [outLitLoop]
    exact K_outLitLoop o ep r _ (K_wrapCheck o (K_litByte c (K_pre ep c h)))

theorem K_outc {b : Bytes} {st : St} (o : CmOpts) (ep : Bool) (c : UInt8) (esc : Esc) (nx : Option UInt8)
    (h : K b st) : K b (outc o ep st c esc nx) :=
  K_ite (K_ite ⟨suf_app _ h.1, h.2⟩ (K_ite ⟨suf_cons _ (suf_cons _ h.1), h.2⟩ (K_outLitLoop o ep _ st h)))
    ⟨suf_cons _ h.1, h.2⟩

theorem K_outLoop {b : Bytes} (o : CmOpts) (ep wrap : Bool) (esc : Esc) :
    ∀ (f : Nat) (st : St) (buf : Bytes), K b st → K b (outLoop o ep wrap esc f st buf)
  | 0, _, _, h => by unfold outLoop; exact h
  | f + 1, st, [], h => by unfold outLoop; exact h
  | f + 1, st, c :: r, h => by
    have h1 := K_pre ep c h
    unfold outLoop
    dsimp only
    split
    · split
      · apply K_outLoop o ep wrap esc f
        apply K_wrapCheck
        have hs : b <:+ 0x20 :: (pre ep st c).rv := suf_cons _ h1.1
        -- a break position recorded now is the whole buffer, `b` included
        exact K_ite ⟨hs, h1.2⟩ ⟨hs, Or.inr h1.1.length_le⟩
      · exact K_outLoop o ep wrap esc f _ _ (K_wrapCheck o h1)
    · split
      · exact K_outLoop o ep wrap esc f _ _ (K_wrapCheck o (K_litByte c h1))
      · apply K_outLoop o ep wrap esc f
        apply K_wrapCheck
        exact K_outc o ep c esc r.head? h1

theorem K_output {b : Bytes} {st : St} (o : CmOpts) (ep : Bool) (buf : Bytes) (wrap : Bool) (esc : Esc)
    (h : K b st) : K b (output o ep st buf wrap esc) :=
  K_outLoop o ep _ esc _ _ _ (K_crFlush h)

theorem K_wr {b : Bytes} {st : St} (o : CmOpts) (ep : Bool) (bs : Bytes) (h : K b st) : K b (wr o ep bs st) :=
  K_ite h (K_output o ep bs false .literal h)

theorem K_truncPrefix {b : Bytes} {st : St} (n : Nat) (h : K b st) : K b (truncPrefix st n) := K_ite h h

theorem K_fmtItem {b : Bytes} {st : St} (o : CmOpts) (ep : Bool) (pl : NList) (own : Nat) (e : Bool)
    (h : K b st) : K b (fmtItem o ep pl own e st) :=
  have h0 : K b (if pl.ty == .ordered && e then
      (match st.olStack with | n :: r => { st with olStack := (n + 1) :: r } | [] => st) else st) :=
    K_ite (by split <;> exact h) h
  K_ite (K_ite (K_wr o ep _ h0) (K_wr o ep _ h0)) h0

theorem K_foldl {b : Bytes} (o : CmOpts) (ep : Bool) (g : Align → Bytes) :
    ∀ (as : List Align) (st : St), K b st → K b (as.foldl (fun s a => wr o ep (g a) s) st)
  | [], _, h => h
  | a :: r, st, h => by
    simp only [List.foldl_cons]
    exact K_foldl o ep g r _ (K_wr o ep _ h)

/-- One proof step for "this state still satisfies `KK b`": close by hypothesis, peel one writer
    primitive or conditional, split a `match`, or reduce projections of a record literal. -/
macro "kstep" : tactic => `(tactic| first
  | with_reducible assumption
  | with_reducible apply K_wr
  | with_reducible apply K_fmEnd
  | with_reducible apply K_output
  | with_reducible apply K_cr
  | with_reducible apply K_blankline
  | with_reducible apply K_truncPrefix
  | with_reducible apply K_fmtItem
  | with_reducible apply K_foldl
  | with_reducible apply K_ite
  | split
  | dsimp only)

theorem K_enter {b : Bytes} (o : CmOpts) (cx : Ctx) (v : NodeValue) (cs : Forest) (st0 : St) (h : K b st0) :
    K b (enter o cx v cs st0).1 := by
  unfold enter
  extract_lets +onlyGivenNames allowWrap st ep w
  have h1 : K b st := K_ite h h
  -- from here on the state and the escape flag `enter` starts from are opaque: each branch is small
  clear_value st ep allowWrap
  clear h
  split
  all_goals dsimp only [w]
  all_goals (repeat kstep)

theorem K_exit {b : Bytes} (o : CmOpts) (cx : Ctx) (v : NodeValue) (st0 : St) (h : K b st0) :
    K b (exit o cx v st0) := by
  unfold exit
  extract_lets +onlyGivenNames allowWrap st ep w
  have h1 : K b st := by dsimp only [st]; split <;> exact h
  clear_value st ep allowWrap
  clear h
  split
  all_goals (try dsimp only [w])
  all_goals (repeat kstep)

mutual
theorem K_renderT {b : Bytes} (o : CmOpts) : ∀ (t : Tree) (cx : Ctx) (st : St), K b st → K b (renderT o cx t st)
  | .node v sp cs, cx, st, h => by
    simp only [renderT]
    split
    · exact K_exit o cx v _ (K_renderF o cs _ _ _ _ (K_enter o cx v cs st h))
    · exact K_enter o cx v cs st h
theorem K_renderF {b : Bytes} (o : CmOpts) :
    ∀ (f : Forest) (parent grand : Option NodeValue) (hp : Bool) (st : St), K b st → K b (renderF o parent grand hp f st)
  | .nil, _, _, _, _, h => h
  | .cons t ts, parent, grand, hp, st, h => by
    simp only [renderF]
    exact K_renderF o ts parent grand true _ (K_renderT o t _ st h)
end

/-- What `format_front_matter` leaves in a fresh writer: the payload, byte for byte (for every
    width: nothing is escaped, nothing wraps because no breakable space is ever recorded). -/
theorem outLoop_literal_fresh (o : CmOpts) :
    ∀ (f : Nat) (buf : Bytes) (st : St), buf.length < f → st.prefix_ = [] → st.lastBreakable = 0 →
      (outLoop o false false .literal f st buf).rv = buf.reverse ++ st.rv ∧
      (outLoop o false false .literal f st buf).lastBreakable = 0
  | 0, _, _, hf, _, _ => by omega
  | f + 1, [], st, _, _, hl => by simp [outLoop, hl]
  | f + 1, c :: r, st, hf, hp, hl => by
    have hpre : (pre false st c).rv = st.rv ∧ (pre false st c).prefix_ = [] ∧ (pre false st c).lastBreakable = 0 := by
      unfold pre; cases hb : st.beginLine <;> simp [hp, hl]
    have hlit : (litByte (pre false st c) c).rv = c :: st.rv ∧ (litByte (pre false st c) c).prefix_ = [] ∧
        (litByte (pre false st c) c).lastBreakable = 0 := by
      unfold litByte; split <;> simp_all
    have hw : wrapCheck o (litByte (pre false st c) c) = litByte (pre false st c) c := by
      unfold wrapCheck; simp [hlit.2.2]
    have ih := outLoop_literal_fresh o f r (litByte (pre false st c) c) (by simp at hf; omega) hlit.2.1 hlit.2.2
    simp only [outLoop, Bool.and_false, Bool.false_eq_true, if_false, beq_self_eq_true, if_true, hw]
    simp [ih, hlit.1]

theorem output_frontMatter_fresh_state (o : CmOpts) (fm : Bytes) :
    (output o false {} fm false .literal).rv = fm.reverse ∧ (output o false {} fm false .literal).lastBreakable = 0 := by
  have hc : crFlush ({} : St) = {} := by decide
  have := outLoop_literal_fresh o (fm.length + 1) fm {} (by omega) rfl rfl
  unfold output
  simp only [hc, Bool.false_and]
  simpa using this

theorem output_frontMatter_fresh_rv (o : CmOpts) (fm : Bytes) :
    (output o false {} fm false .literal).rv = fm.reverse :=
  (output_frontMatter_fresh_state o fm).1

theorem output_frontMatter_fresh (o : CmOpts) (fm : Bytes) :
    K fm.reverse (output o false {} fm false .literal) :=
  ⟨by rw [output_frontMatter_fresh_rv]; exact List.suffix_refl _, Or.inl (output_frontMatter_fresh_state o fm).2⟩

/-- The last step of `format_document`: the buffer in write order, with a line feed added unless
    it is empty or ends with one. -/
def finalBytes (rv : Bytes) : Bytes :=
  match rv with
  | [] => []
  | b :: _ => if b == 0x0A then rv.reverse else (0x0A :: rv).reverse

theorem renderCm_eq_finalBytes (o : CmOpts) (t : Tree) : renderCm o t = finalBytes (renderT o {} t {}).rv := rfl

theorem final_prefix (fm rv : Bytes) (h : fm.reverse <:+ rv) : fm <+: finalBytes rv := by
  unfold finalBytes
  cases rv with
  | nil =>
    have : fm = [] := by simpa using List.suffix_nil.mp h
    simp [this]
  | cons b r =>
    have hp : fm <+: (b :: r).reverse := by
      obtain ⟨t, ht⟩ := h
      rw [← ht]; simp
    simp only []
    split
    · exact hp
    · rw [List.reverse_cons (a := 0x0A)]
      exact hp.trans (List.prefix_append _ _)

theorem renderT_doc_fm (o : CmOpts) (fm : Bytes) (spd sp : Sp) (rest : Forest) :
    renderT o {} (.node .document spd (.cons (.node (.frontMatter fm) sp .nil) rest)) {}
      = renderF o (some .document) none true rest (fmEnd fm (output o false {} fm false .literal)) := rfl

theorem renderT_doc_fm_nil (o : CmOpts) (fm : Bytes) (spd sp : Sp) :
    renderT o {} (.node .document spd (.cons (.node (.frontMatter fm) sp .nil) .nil)) {}
      = fmEnd fm (output o false {} fm false .literal) := renderT_doc_fm o fm spd sp .nil

/-- **Front matter first.** For every option vector (any width), payload and following
    siblings: the CommonMark rendering of a document whose first child is a front matter node
    starts with the payload, byte for byte. -/
theorem renderCm_frontMatter_prefix (o : CmOpts) (fm : Bytes) (spd sp : Sp) (rest : Forest) :
    fm <+: renderCm o (.node .document spd (.cons (.node (.frontMatter fm) sp .nil) rest)) := by
  rw [renderCm_eq_finalBytes, renderT_doc_fm]
  exact final_prefix _ _ (K_renderF o rest _ _ _ _ (K_fmEnd fm (output_frontMatter_fresh o fm))).1

end Comrak.Cm
