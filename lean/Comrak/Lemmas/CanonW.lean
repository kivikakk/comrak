/-
Writer-combinator lemmas used by the canonical-document theorems (C03): under the default
options, with no footnotes and no header ids, every piece of the HTML formatter model is a
function of `last_was_lf` alone.  `R w lf bs` says: started with `last_was_lf = lf`, the
writer `w` spells exactly `bs` and changes nothing in the state but `last_was_lf`.
-/
import Comrak.Lemmas.Html
import Comrak.Lemmas.SpelledAttr
import Comrak.Canon.Ref
namespace Comrak
open Bytes Canon

/-- A write that leaves the flag at `v` even when started from `!v` is not empty, so it decides
    the flag after any write it ends. -/
theorem lastLfAfter_append_of {v : Bool} {b : Bytes} (h : lastLfAfter (!v) b = v) (l : Bool) (a : Bytes) :
    lastLfAfter l (a ++ b) = v := by
  rw [lastLfAfter_append]
  unfold lastLfAfter at h ⊢
  cases hb : b.getLast? with
  | none => rw [hb] at h; cases v <;> cases h
  | some y => rw [hb] at h; exact h

theorem atBol_eq (l : Bool) (s : Bytes) : atBol l s = lastLfAfter l s := rfl

/-! The simp set `spelled` spells a concrete token list from the right: every rule has the form
`piece ++ k = ..`, so what follows a piece is carried along and the pieces come out as one
right-nested concatenation, names and variables left as they are; `rfl` then compares the closed
chunks with those of the reference renderer. -/

section
variable (n v k : Bytes) (as : List Attr) (ps : List APart)

@[spelled] theorem spell_op_append : (Tok.op n as).spell ++ k = 0x3C :: (n ++ (spellAttrs as ++ 0x3E :: k)) := by
  simp only [Tok.spell, List.append_assoc, List.cons_append, List.nil_append]
@[spelled] theorem spell_cl_append : (Tok.cl n).spell ++ k = 0x3C :: 0x2F :: (n ++ 0x3E :: k) := by
  simp only [Tok.spell, List.append_assoc, List.cons_append, List.nil_append]
@[spelled] theorem spell_vd_append : (Tok.vd n as).spell ++ k = 0x3C :: (n ++ (spellAttrs as ++ (S.v_voidend ++ k))) := by
  simp only [Tok.spell, List.append_assoc, List.cons_append, List.nil_append]
@[spelled] theorem spell_txt_append : (Tok.txt v).spell ++ k = escape v ++ k := rfl
@[spelled] theorem spell_lit_append : (Tok.lit v).spell ++ k = v ++ k := rfl
@[spelled] theorem spellAttrs_nil_append : spellAttrs [] ++ k = k := rfl
@[spelled] theorem spellAttrs_cons_append (a : Attr) : spellAttrs (a :: as) ++ k = a.spell ++ (spellAttrs as ++ k) :=
  List.append_assoc ..
@[spelled] theorem spell_attr_append : Attr.spell ⟨n, some ps⟩ ++ k = 0x20 :: (n ++ 0x3D :: 0x22 :: (spellVal ps ++ 0x22 :: k)) := by
  simp only [Attr.spell, List.append_assoc, List.cons_append, List.nil_append]
@[spelled] theorem spell_bareAttr_append : Attr.spell ⟨n, none⟩ ++ k = 0x20 :: (n ++ k) := rfl
@[spelled] theorem spellVal_nil_append : spellVal [] ++ k = k := rfl
@[spelled] theorem spellVal_cons_append (p : APart) : spellVal (p :: ps) ++ k = p.spell ++ (spellVal ps ++ k) :=
  List.append_assoc ..

end

@[spelled] theorem spAttr_default (sp : Sp) : spAttr {} sp = [] := rfl

attribute [spelled] spell_cons spell_nil APart.spell litAttr nl List.append_assoc List.nil_append List.cons_append

theorem spell_ite (c : Prop) [Decidable c] (ts : List Tok) :
    spell (if c then ts else []) = if c then spell ts else [] := by
  split <;> rfl

def R (w : W) (lf : Bool) (bs : Bytes) : Prop :=
  ∀ st : St, st.lastLf = lf →
    spell (w st).1 = bs ∧ (w st).2 = { st with lastLf := lastLfAfter lf bs }

theorem R_emit (ts : List Tok) (lf : Bool) : R (W.emit ts) lf (spell ts) := by
  intro st h; subst h; exact ⟨rfl, rfl⟩

theorem R_nop (lf : Bool) : R W.nop lf [] := by
  intro st h; subst h; exact ⟨rfl, rfl⟩

theorem R_cr (lf : Bool) : R W.cr lf (crB lf) := by
  intro st h; subst h
  obtain ⟨l, _, _, _⟩ := st
  cases l <;> exact ⟨rfl, rfl⟩

theorem R_seq_at {a b : W} {lf l' : Bool} {x y : Bytes} (ha : R a lf x) (hl : lastLfAfter lf x = l') (hb : R b l' y) :
    R (a ⨟ b) lf (x ++ y) := by
  intro st h
  obtain ⟨a1, a2⟩ := ha st h
  obtain ⟨b1, b2⟩ := hb (a st).2 (by rw [a2]; exact hl)
  refine ⟨?_, ?_⟩
  · rw [W.seq_fst, spell_append, a1, b1]
  · rw [W.seq_snd, b2, a2, ← hl, ← lastLfAfter_append]

theorem R_seq {a b : W} {lf : Bool} {x y : Bytes} (ha : R a lf x) (hb : R b (lastLfAfter lf x) y) :
    R (a ⨟ b) lf (x ++ y) :=
  R_seq_at ha rfl hb

theorem R_cr_emit (ts : List Tok) (lf : Bool) : R (W.cr ⨟ W.emit ts) lf (crB lf ++ spell ts) :=
  R_seq (R_cr lf) (R_emit ts _)

theorem R_congr {w : W} {lf : Bool} {x y : Bytes} (h : R w lf x) (e : x = y) : R w lf y := e ▸ h

section node
variable {o : HtmlOpts} {nt : NormTable} {cx : Ctx} {v : NodeValue} {sp : Sp} {cs : Forest} {lf : Bool} {a b c : Bytes}

theorem renderT_html (hv : htmlChildren v = true) :
    renderT o nt cx (.node v sp cs) =
      (enter o nt cx v sp cs ⨟ renderF o nt (some v) cx.parent none 0 cs) ⨟ exit o cx v cs := by
  rw [renderT_seq, if_pos hv]

theorem R_node_at {l1 l2 : Bool} (hv : htmlChildren v = true)
    (he : R (enter o nt cx v sp cs) lf a) (h1 : lastLfAfter lf a = l1)
    (hc : R (renderF o nt (some v) cx.parent none 0 cs) l1 b) (h2 : lastLfAfter l1 b = l2)
    (hx : R (exit o cx v cs) l2 c) :
    R (renderT o nt cx (.node v sp cs)) lf (a ++ b ++ c) := by
  rw [renderT_html hv]
  exact R_seq_at (R_seq_at he h1 hc) (by rw [lastLfAfter_append, h1, h2]) hx

theorem R_node (hv : htmlChildren v = true)
    (he : R (enter o nt cx v sp cs) lf a)
    (hc : R (renderF o nt (some v) cx.parent none 0 cs) (lastLfAfter lf a) b)
    (hx : R (exit o cx v cs) (lastLfAfter (lastLfAfter lf a) b) c) :
    R (renderT o nt cx (.node v sp cs)) lf (a ++ b ++ c) :=
  R_node_at hv he rfl hc rfl hx

theorem R_leaf (he : R (enter o nt cx v sp cs) lf a)
    (hc : (if htmlChildren v then renderF o nt (some v) cx.parent none 0 cs else W.nop) = W.nop)
    (hx : exit o cx v cs = W.nop) :
    R (renderT o nt cx (.node v sp cs)) lf a := by
  rw [renderT_seq, hc, hx]
  exact R_congr (R_seq (R_seq he (R_nop _)) (R_nop _)) (by rw [List.append_nil, List.append_nil])

end node

end Comrak
