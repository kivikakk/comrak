/-
C06 helper lemmas: termination and the amortised linear bound of the `process_emphasis` model `emLoop`.

Potential: for each of the 42 `openers_bottom` classes the number of delimiters at or above the class's
bottom, plus the number of delimiters, plus the characters they still have, plus the delimiters still to
be visited as closers. A failed search for class `i` walks over (at most) the delimiters of `left` that are
counted for `i` and then raises the bottom to the closer: they are never counted for `i` again. A successful
search walks over delimiters that `insert_emph` removes, and uses up at least one character on each side.
-/
import Comrak.Cost
namespace Comrak.Cost
open Comrak

/-- Delimiters with `position >= b`. -/
def cntGe (b : Nat) : List Delim → Nat
  | [] => 0
  | d :: ds => (if b ≤ d.pos then 1 else 0) + cntGe b ds

theorem cntGe_append (b : Nat) (l r : List Delim) : cntGe b (l ++ r) = cntGe b l + cntGe b r := by
  induction l with
  | nil => simp [cntGe]
  | cons d l ih => simp only [List.cons_append, cntGe, ih]; omega

theorem cntGe_eq_length (b : Nat) (ds : List Delim) (h : ∀ d ∈ ds, b ≤ d.pos) : cntGe b ds = ds.length := by
  induction ds with
  | nil => simp [cntGe]
  | cons d ds ih =>
    have h1 := h d (by simp)
    have := ih (fun e he => h e (by simp [he]))
    simp only [cntGe, h1, if_true, List.length_cons]; omega

theorem cntGe_eq_zero (b : Nat) (ds : List Delim) (h : ∀ d ∈ ds, d.pos < b) : cntGe b ds = 0 := by
  induction ds with
  | nil => simp [cntGe]
  | cons d ds ih =>
    have h1 := h d (by simp)
    have := ih (fun e he => h e (by simp [he]))
    have h2 : ¬ b ≤ d.pos := by omega
    simp only [cntGe, h2, if_false]; omega

theorem sumCur_append (l r : List Delim) : sumCur (l ++ r) = sumCur l + sumCur r := by
  induction l with
  | nil => simp [sumCur]
  | cons d l ih => simp only [List.cons_append, sumCur, ih]; omega

def potA (bot : Nat → Nat) (l r : List Delim) : Nat → Nat
  | 0 => 0
  | K + 1 => potA bot l r K + cntGe (bot K) l + cntGe (bot K) r

theorem potA_mono (bot : Nat → Nat) (l r l' r' : List Delim)
    (h : ∀ b, cntGe b l' + cntGe b r' ≤ cntGe b l + cntGe b r) : ∀ K, potA bot l' r' K ≤ potA bot l r K
  | 0 => by simp [potA]
  | K + 1 => by
    have := potA_mono bot l r l' r' h K
    have := h (bot K)
    simp only [potA]; omega

theorem potA_congr (bot bot' : Nat → Nat) (l r : List Delim) : ∀ K, (∀ k, k < K → bot k = bot' k) →
    potA bot l r K = potA bot' l r K
  | 0, _ => by simp [potA]
  | K + 1, h => by
    have := potA_congr bot bot' l r K (fun k hk => h k (by omega))
    simp only [potA, this, h K (by omega)]

theorem potA_update (bot : Nat → Nat) (l r : List Delim) (i v : Nat) : ∀ K, i < K →
    potA (fun k => if k = i then v else bot k) l r K + cntGe (bot i) l + cntGe (bot i) r
      = potA bot l r K + cntGe v l + cntGe v r
  | 0, h => by omega
  | K + 1, h => by
    by_cases hi : i = K
    · subst hi
      have hc := potA_congr (fun k => if k = i then v else bot k) bot l r i (fun k hk => by
        have : k ≠ i := by omega
        simp [this])
      simp only [potA, hc, if_true]; omega
    · have ih := potA_update bot l r i v K (by omega)
      have hne : K ≠ i := fun h => hi h.symm
      simp only [potA, hne, if_false]; omega

theorem potA_zero (ds : List Delim) : ∀ K, potA (fun _ => 0) [] ds K = K * ds.length
  | 0 => by simp [potA]
  | K + 1 => by
    have h := cntGe_eq_length 0 ds (fun _ _ => Nat.zero_le _)
    simp only [potA, potA_zero ds K, cntGe, h, Nat.add_mul]; omega

/-- A slot index is a base of at most 36 (`bottomIxOld`: one of 0..5, or the base 6), + 3 for `can_open`,
    + `length % 3`; `grind` only goes through the two if-chains. -/
theorem bottomIx_lt (fix : Bool) (c : Delim) : bottomIx fix c < 42 := by
  unfold bottomIx bottomIxNew bottomIxOld
  grind

theorem emSearch_cost_le (c : Delim) (b : Nat) (left : List Delim) : (emSearch c b left).cost ≤ cntGe b left := by
  fun_induction emSearch c b left
  · exact Nat.le_refl _
  · exact Nat.zero_le _
  · rename_i hlt _ _ s ih
    simp only [s, cntGe, Nat.le_of_not_lt hlt, if_true] at ih ⊢; omega
  · rename_i hlt _ _
    simp only [cntGe, Nat.le_of_not_lt hlt, if_true]; omega
  · rename_i hlt _ s ih
    simp only [s, cntGe, Nat.le_of_not_lt hlt, if_true] at ih ⊢; omega

theorem emSearch_hit (c : Delim) (b : Nat) (left : List Delim) (o : Delim) (below : List Delim)
    (h : (emSearch c b left).hit = some (o, below)) :
    ∃ sk, left = sk ++ o :: below ∧ (emSearch c b left).cost = sk.length + 1 := by
  fun_induction emSearch c b left
  · cases h
  · cases h
  · rename_i x rest _ _ _ s ih
    obtain ⟨sk, h1, h2⟩ := ih h
    exact ⟨x :: sk, by simp [h1], by simp [s, h2]⟩
  · cases h; exact ⟨[], rfl, rfl⟩
  · rename_i x rest _ _ s ih
    obtain ⟨sk, h1, h2⟩ := ih h
    exact ⟨x :: sk, by simp [h1], by simp [s, h2]⟩

theorem emSearch_nomod3 (c : Delim) (b : Nat) (left : List Delim)
    (h : ∀ o ∈ left, o.canOpen = true → o.ch = c.ch → oddMatch o c = false) : (emSearch c b left).mod3 = false := by
  fun_induction emSearch c b left
  · rfl
  · rfl
  · rename_i o below _ hoc hodd s ih
    simp only [Bool.and_eq_true, beq_iff_eq] at hoc
    simp [h o (by simp) hoc.1 hoc.2] at hodd
  · rfl
  · rename_i o below _ _ s ih
    exact ih (fun x hx => h x (by simp [hx]))

theorem shrink_cnt (b : Nat) (d : Delim) (u : Nat) (rest : List Delim) :
    cntGe b (shrink d u rest) ≤ cntGe b (d :: rest) := by
  unfold shrink; split
  · simp only [cntGe]; omega
  · simp only [cntGe]; omega

theorem shrink_length (d : Delim) (u : Nat) (rest : List Delim) : (shrink d u rest).length ≤ rest.length + 1 := by
  unfold shrink; split <;> simp

/-- Each side of a match gives up a character or a delimiter. -/
theorem shrink_pay (d : Delim) (u : Nat) (rest : List Delim) (hu : 1 ≤ u) :
    (shrink d u rest).length + sumCur (shrink d u rest) + 1 ≤ rest.length + 1 + d.cur + sumCur rest := by
  unfold shrink; split
  · omega
  · simp only [List.length_cons, sumCur]; omega

theorem shrink_pos (d : Delim) (u : Nat) (rest : List Delim) (e : Delim) (he : e ∈ shrink d u rest) :
    ∃ e0, e0 ∈ d :: rest ∧ e.pos = e0.pos := by
  unfold shrink at he; split at he
  · exact ⟨e, by simp [he], rfl⟩
  · simp only [List.mem_cons] at he
    rcases he with rfl | he
    · exact ⟨d, by simp, rfl⟩
    · exact ⟨e, by simp [he], rfl⟩

theorem shrink_P (P : Delim → Prop) (hP : ∀ d n, P d → P { d with cur := n }) (d : Delim) (u : Nat)
    (rest : List Delim) (h : ∀ x ∈ d :: rest, P x) : ∀ e ∈ shrink d u rest, P e := by
  intro e he
  unfold shrink at he; split at he
  · exact h e (by simp [he])
  · simp only [List.mem_cons] at he
    rcases he with rfl | he
    · exact hP d _ (h d (by simp))
    · exact h e (by simp [he])

theorem shrink_sorted (d : Delim) (u : Nat) (rest : List Delim)
    (h : (d :: rest).Pairwise (fun a b => a.pos < b.pos)) : (shrink d u rest).Pairwise (fun a b => a.pos < b.pos) := by
  rw [List.pairwise_cons] at h
  unfold shrink; split
  · exact h.2
  · rw [List.pairwise_cons]; exact ⟨fun e he => h.1 e he, h.2⟩

theorem useChars_pos (o c : Delim) : 1 ≤ useChars o c := by
  unfold useChars; split <;> omega

theorem emLoop_terminates (fix : Bool) (fuel : Nat) (bot : Nat → Nat) (left right : List Delim)
    (h : sumCur right + right.length ≤ fuel) : ∃ k, emLoop fix fuel bot left right = some k := by
  fun_induction emLoop fix fuel bot left right
  · exact ⟨0, rfl⟩
  · simp at h
  · exact ⟨_, rfl⟩
  · -- a match: each side gives up a character or a delimiter
    rename_i c above _ _ o below _ _ ih
    have := shrink_pay c (useChars o c) above (useChars_pos o c)
    simp only [sumCur, List.length_cons] at h
    obtain ⟨k, hk⟩ := ih (by omega)
    exact ⟨_, by rw [hk]; rfl⟩
  all_goals
    -- the closer moves up
    simp only [sumCur, List.length_cons] at h
    rename_i ih
    obtain ⟨k, hk⟩ := ih (by omega)
    exact ⟨_, by rw [hk]; rfl⟩

structure EmInv (P : Delim → Prop) (bot : Nat → Nat) (left right : List Delim) : Prop where
  lt : ∀ d ∈ left, ∀ e ∈ right, d.pos < e.pos
  sorted : right.Pairwise (fun a b => a.pos < b.pos)
  botle : ∀ i, ∀ e ∈ right, bot i ≤ e.pos
  pl : ∀ d ∈ left, P d
  pr : ∀ d ∈ right, P d

def emPot (bot : Nat → Nat) (left right : List Delim) : Nat :=
  potA bot left right 42 + (left.length + right.length) + (sumCur left + sumCur right) + right.length

theorem EmInv.move {P : Delim → Prop} {bot : Nat → Nat} {left : List Delim} {c : Delim} {above : List Delim}
    (hI : EmInv P bot left (c :: above)) (bot' : Nat → Nat) (left' : List Delim)
    (hl : left' = c :: left ∨ left' = left) (hb : ∀ i, ∀ e ∈ above, bot' i ≤ e.pos) : EmInv P bot' left' above := by
  have hsort := List.pairwise_cons.mp hI.sorted
  have hsub : ∀ d ∈ left', d = c ∨ d ∈ left := by
    rcases hl with rfl | rfl
    · exact fun d hd => List.mem_cons.mp hd
    · exact fun d hd => Or.inr hd
  refine ⟨?_, hsort.2, hb, ?_, fun d hd => hI.pr d (by simp [hd])⟩
  · intro d hd e he
    rcases hsub d hd with rfl | hd
    · exact hsort.1 e he
    · exact hI.lt d hd e (by simp [he])
  · intro d hd
    rcases hsub d hd with rfl | hd
    · exact hI.pr d (by simp)
    · exact hI.pl d hd

theorem EmInv.hit {P : Delim → Prop} (hP : ∀ d n, P d → P { d with cur := n }) {bot : Nat → Nat}
    {sk : List Delim} {o : Delim} {below : List Delim} {c : Delim} {above : List Delim} (u : Nat)
    (hI : EmInv P bot (sk ++ o :: below) (c :: above)) : EmInv P bot (shrink o u below) (shrink c u above) := by
  refine ⟨?_, shrink_sorted c _ above hI.sorted, ?_, ?_, ?_⟩
  · intro d hd e he
    obtain ⟨d0, hd0, hdp⟩ := shrink_pos o _ below d hd
    obtain ⟨e0, he0, hep⟩ := shrink_pos c _ above e he
    rw [hdp, hep]
    exact hI.lt d0 (List.mem_append_right _ hd0) e0 he0
  · intro i e he
    obtain ⟨e0, he0, hep⟩ := shrink_pos c _ above e he
    rw [hep]; exact hI.botle i e0 he0
  · exact shrink_P P hP o _ below (fun x hx => hI.pl x (List.mem_append_right _ hx))
  · exact shrink_P P hP c _ above hI.pr

theorem emPot_skip (bot : Nat → Nat) (left : List Delim) (c : Delim) (above : List Delim) :
    1 + emPot bot (c :: left) above ≤ emPot bot left (c :: above) := by
  have : potA bot (c :: left) above 42 ≤ potA bot left (c :: above) 42 := by
    apply potA_mono; intro b; simp only [cntGe]; omega
  simp only [emPot, List.length_cons, sumCur]; omega

/-- A match pays for the search over `sk` and the opener with what it removes: everything above the opener,
    and a character or a delimiter on each side. -/
theorem emPot_hit (bot : Nat → Nat) (sk : List Delim) (o : Delim) (below : List Delim) (c : Delim)
    (above : List Delim) (u : Nat) (hu : 1 ≤ u) :
    sk.length + 2 + emPot bot (shrink o u below) (shrink c u above) ≤ emPot bot (sk ++ o :: below) (c :: above) := by
  have := shrink_pay c u above hu
  have := shrink_pay o u below hu
  have := shrink_length c u above
  have : potA bot (shrink o u below) (shrink c u above) 42 ≤ potA bot (sk ++ o :: below) (c :: above) 42 := by
    apply potA_mono
    intro b
    have := shrink_cnt b o u below
    have := shrink_cnt b c u above
    rw [cntGe_append]; omega
  simp only [emPot, sumCur_append, List.length_append, List.length_cons, sumCur]
  omega

/-- The closer moves up after a failed search for class `i` whose bottom is raised to the closer: the
    delimiters of `left` counted for `i`, which the search walked over, leave the potential. -/
theorem emPot_failed (bot : Nat → Nat) (left above : List Delim) (c : Delim) (i : Nat) (hi : i < 42)
    (hlt : ∀ d ∈ left, d.pos < c.pos) (hab : ∀ e ∈ above, c.pos < e.pos) (hbc : bot i ≤ c.pos)
    (left' : List Delim) (hl : left' = c :: left ∨ left' = left) :
    1 + cntGe (bot i) left + emPot (fun k => if k = i then c.pos else bot k) left' above
      ≤ emPot bot left (c :: above) := by
  have hu := potA_update bot left' above i c.pos 42 hi
  have h1 : cntGe c.pos above = above.length := cntGe_eq_length _ _ (fun e he => Nat.le_of_lt (hab e he))
  have h2 : cntGe (bot i) above = above.length :=
    cntGe_eq_length _ _ (fun e he => Nat.le_trans hbc (Nat.le_of_lt (hab e he)))
  have h3 : cntGe c.pos left = 0 := cntGe_eq_zero _ _ hlt
  have hm : potA bot left' above 42 ≤ potA bot left (c :: above) 42 := by
    apply potA_mono
    intro b
    rcases hl with rfl | rfl <;> simp only [cntGe] <;> omega
  simp only [emPot, List.length_cons, sumCur]
  rcases hl with rfl | rfl
  · simp only [cntGe, hbc, if_true, Nat.le_refl, List.length_cons, sumCur] at hu ⊢; omega
  · omega

theorem emLoop_bound (P : Delim → Prop) (hP : ∀ d n, P d → P { d with cur := n }) (fix : Bool)
    (hfix : ∀ c, P c → c.canClose = true → alwaysRaise fix c = true ∨
      ∀ o, P o → o.canOpen = true → o.ch = c.ch → oddMatch o c = false)
    (fuel : Nat) (bot : Nat → Nat) (left right : List Delim) (hI : EmInv P bot left right)
    (h : sumCur right + right.length ≤ fuel) :
    ∃ k, emLoop fix fuel bot left right = some k ∧ k ≤ emPot bot left right := by
  fun_induction emLoop fix fuel bot left right
  · exact ⟨0, rfl, Nat.zero_le _⟩
  · simp at h
  · -- the `~` exit of insert_emph: the loop ends here
    rename_i fuel bot left c above _ s o below hhit _
    obtain ⟨sk, hleft, hcost⟩ := emSearch_hit c _ _ o below hhit
    have := emPot_hit bot sk o below c above _ (useChars_pos o c)
    exact ⟨_, rfl, by rw [hcost, hleft]; omega⟩
  · rename_i fuel bot left c above _ s o below hhit _ ih
    obtain ⟨sk, hleft, hcost⟩ := emSearch_hit c _ _ o below hhit
    have hu := useChars_pos o c
    have := shrink_pay c (useChars o c) above hu
    have := emPot_hit bot sk o below c above _ hu
    simp only [sumCur, List.length_cons] at h
    obtain ⟨k, hk, hkb⟩ := ih ((hleft ▸ hI).hit hP _) (by omega)
    exact ⟨_, by rw [hk]; rfl, by rw [hcost, hleft]; dsimp only; omega⟩
  · -- no opener: the bottom of the closer's class is raised (always, or because the rule of three skipped nothing)
    rename_i fuel bot left c above hclose s hhit bot' ih
    have hsort := List.pairwise_cons.mp hI.sorted
    have hbc : bot (bottomIx fix c) ≤ c.pos := hI.botle _ c (by simp)
    have hbot : bot' = fun k => if k = bottomIx fix c then c.pos else bot k := by
      rcases hfix c (hI.pr c (by simp)) hclose with har | hno
      · simp [bot', har]
      · have := emSearch_nomod3 c (bot (bottomIx fix c)) left (fun o ho h1 h2 => hno o (hI.pl o ho) h1 h2)
        simp [bot', s, this]
    have hl : (if c.canOpen = true then c :: left else left) = c :: left
        ∨ (if c.canOpen = true then c :: left else left) = left := by
      split <;> simp
    have := emPot_failed bot left above c _ (bottomIx_lt fix c) (fun d hd => hI.lt d hd c (by simp)) hsort.1 hbc _ hl
    have := emSearch_cost_le c (bot (bottomIx fix c)) left
    simp only [sumCur, List.length_cons] at h
    obtain ⟨k, hk, hkb⟩ := ih (hI.move _ _ hl (by
      intro i e he
      rw [hbot]
      by_cases hi : i = bottomIx fix c
      · simp only [hi, if_true]; exact Nat.le_of_lt (hsort.1 e he)
      · simp only [hi, if_false]; exact hI.botle i e (by simp [he]))) (by omega)
    exact ⟨_, by rw [hk]; rfl, by rw [hbot] at hkb; simp only [s]; omega⟩
  · -- not a closer
    rename_i fuel bot left c above _ ih
    simp only [sumCur, List.length_cons] at h
    obtain ⟨k, hk, hkb⟩ := ih (hI.move bot _ (Or.inl rfl) (fun i e he => hI.botle i e (by simp [he]))) (by omega)
    have := emPot_skip bot left c above
    exact ⟨_, by rw [hk]; rfl, by show 1 + k ≤ _; omega⟩

end Comrak.Cost
