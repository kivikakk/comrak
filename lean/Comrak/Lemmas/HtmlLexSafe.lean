/-
The C02 byte oracle `safeBytes` accepts the spelling of every token list that is `allowedTok` and `destOk` (no
`href`/`src` value that entity-decodes to a dangerous URL), and every token the renderer writes in safe mode is
`destOk`: the destinations it writes are `urlVal` of a document URL, where `escape_href` followed by entity
decoding keeps the scheme test unchanged, or fragments beginning with `#`.
-/
import Comrak.Lemmas.HtmlLex
import Comrak.Lemmas.UrlSafe
import Comrak.Lemmas.HtmlTagNames
namespace Comrak
open Bytes

def isDest (n : Bytes) : Bool := n == S.a_href || n == S.a_src

def attrDestOk (a : Attr) : Bool :=
  !isDest a.name ||
  match a.val with
  | none => true
  | some ps => !dangerousUrl (entDecode (spellVal ps))

def destOk : Tok → Bool
  | .op _ as => as.all attrDestOk
  | .vd _ as => as.all attrDestOk
  | _ => true

theorem attrDestOk_other (n : Bytes) (v : Option (List APart)) (h : isDest n = false) : attrDestOk ⟨n, v⟩ = true := by
  simp [attrDestOk, h]

theorem attrDestOk_dest (n : Bytes) (ps : List APart) (h : dangerousUrl (entDecode (spellVal ps)) = false) :
    attrDestOk ⟨n, some ps⟩ = true := by
  simp [attrDestOk, h]

theorem checkAttrs_ok (l : List Attr) (ha : l.all attrOk = true) (hd : l.all attrDestOk = true) :
    checkAttrs (l.map lattr) = .ok () := by
  induction l with
  | nil => rfl
  | cons a r ih =>
    simp only [List.all_cons, Bool.and_eq_true] at ha hd
    obtain ⟨name, val⟩ := a
    have ha1 := ha.1
    simp only [attrOk, Bool.and_eq_true] at ha1
    cases val with
    | none =>
      simp only [List.map_cons, lattr, Option.map_none, checkAttrs, ha1.1, Bool.not_true, Bool.false_eq_true, if_false]
      exact ih ha.2 hd.2
    | some ps =>
      have hv := valueSafe_spellVal ps ha1.2
      have hd1 := hd.1
      simp only [attrDestOk, isDest, Bool.or_eq_true, Bool.not_eq_true'] at hd1
      have hdest : ((name == S.a_href || name == S.a_src) && dangerousUrl (entDecode (spellVal ps))) = false := by
        rcases hd1 with h | h <;> simp [h]
      simp only [List.map_cons, lattr, Option.map_some, checkAttrs, ha1.1, hv, hdest, Bool.not_true,
        Bool.false_eq_true, if_false]
      exact ih ha.2 hd.2

theorem checkLToks_textL (pre : Bytes) (r : List LTok) (h : valueSafe pre = true) :
    checkLToks (textL pre ++ r) = checkLToks r := by
  unfold textL
  split
  · rfl
  · simp [checkLToks, h]

theorem checkLToks_toL (ts : List Tok) (pre : Bytes) (hp : valueSafe pre = true)
    (ha : ts.all allowedTok = true) (hd : ts.all destOk = true) : checkLToks (toLAux pre ts) = .ok () := by
  induction ts generalizing pre with
  | nil =>
    rw [toLAux, ← List.append_nil (textL pre), checkLToks_textL _ _ hp]
    rfl
  | cons t r ih =>
    simp only [List.all_cons, Bool.and_eq_true] at ha hd
    cases t
    case txt v => exact ih _ (valueSafe_append _ _ hp (valueSafe_escape v)) ha.2 hd.2
    case lit v | raw v => exact ih _ (valueSafe_append _ _ hp (valueSafe_of_litSafe v ha.1)) ha.2 hd.2
    case cmt =>
      simp only [toLAux, checkLToks_textL _ _ hp, checkLToks, beq_self_eq_true, if_true]
      exact ih _ rfl ha.2 hd.2
    case cl n =>
      have h1 : tagVocab.contains n = true := ha.1
      simp only [toLAux, checkLToks_textL _ _ hp, checkLToks, h1, Bool.not_true, Bool.false_eq_true, if_false]
      exact ih _ rfl ha.2 hd.2
    case op n l | vd n l =>
      have h1 := ha.1
      simp only [allowedTok, Bool.and_eq_true] at h1
      simp only [toLAux, checkLToks_textL _ _ hp, checkLToks, h1.1, Bool.not_true, Bool.false_eq_true, if_false,
        checkAttrs_ok l h1.2 hd.1]
      exact ih _ rfl ha.2 hd.2

theorem safeBytes_spell (ts : List Tok) (ha : ts.all allowedTok = true) (hd : ts.all destOk = true) :
    safeBytes (spell ts) = .ok () := by
  unfold safeBytes
  rw [lex_spell ts ha]
  exact checkLToks_toL ts [] rfl ha hd

theorem entDecodeAux_cons_ne (b : UInt8) (r : Bytes) (h : b ≠ 0x26) :
    entDecodeAux 0 (b :: r) = b :: entDecodeAux 0 r := by
  have h' : ((0x26 : UInt8) == b) = false := by simpa using Ne.symm h
  simp [entDecodeAux, isPrefixB, entAmp, entApos', entQuot, entLt, entGt, h']

theorem entDecode_hrefByte_head (b : UInt8) (rest : Bytes) :
    (hrefSafe b = true → entDecode (hrefByte b ++ rest) = b :: entDecode rest) ∧
    (hrefSafe b = false → ∃ h t, entDecode (hrefByte b ++ rest) = h :: t ∧ (h = 0x26 ∨ h = 0x27 ∨ h = 0x25)) := by
  refine ⟨fun h => ?_, fun h => ?_⟩
  · simp only [hrefByte, h, if_true, List.singleton_append, entDecode]
    exact entDecodeAux_cons_ne b _ (hrefSafe_ne_amp b h)
  · unfold hrefByte
    simp only [h, Bool.false_eq_true, if_false]
    split
    · exact ⟨0x26, _, by simp [entDecode, entDecodeAux, entAmp, isPrefixB]; rfl, Or.inl rfl⟩
    · split
      · exact ⟨0x27, _, by simp [entDecode, entDecodeAux, entAmp, entApos, entApos', isPrefixB]; rfl, Or.inr (Or.inl rfl)⟩
      · exact ⟨0x25, _, by simp only [pctByte, List.cons_append, entDecode]; exact entDecodeAux_cons_ne _ _ (by decide),
          Or.inr (Or.inr rfl)⟩

/-- **A browser that entity-decodes the written `href` sees a dangerous scheme exactly when the
    document's URL had one.** -/
theorem dangerousUrl_entDecode_escapeHref (u : Bytes) : dangerousUrl (entDecode (escapeHref u)) = dangerousUrl u :=
  dangerousUrl_of_heads (fun u => entDecode (escapeHref u)) rfl
    (fun b r h => by rw [escapeHref_cons]; exact (entDecode_hrefByte_head b _).1 h)
    (fun b r h => by rw [escapeHref_cons]; exact (entDecode_hrefByte_head b _).2 h) u

theorem dangerousUrl_entDecode_hash (x : Bytes) : dangerousUrl (entDecode (0x23 :: x)) = false := by
  have : entDecode (0x23 :: x) = 0x23 :: entDecode x := entDecodeAux_cons_ne _ _ (by decide)
  have hl : toLowerAscii 0x23 = 0x23 := by decide
  rw [this]
  simp [dangerousUrl, isPrefixCI, S.v_javascript_colon, S.v_vbscript_colon, S.v_file_colon, S.v_data_colon, hl]

theorem attrDestOk_fragment (n x : Bytes) (rest : List APart) :
    attrDestOk ⟨n, some (.lit (0x23 :: x) :: rest)⟩ = true :=
  attrDestOk_dest n _ (by
    simp only [spellVal, List.flatMap_cons, APart.spell, List.cons_append]
    exact dangerousUrl_entDecode_hash _)

/-- A dangerous document URL is replaced by the empty value, any other keeps its scheme under `escape_href`. -/
theorem attrDestOk_urlVal (o : HtmlOpts) (hu : o.unsafe_ = false) (n url : Bytes) :
    attrDestOk ⟨n, some (urlVal o url)⟩ = true := by
  apply attrDestOk_dest
  unfold urlVal
  by_cases hd : dangerousUrl url = true
  · simp [hu, hd, spellVal]; decide
  · have hd' : dangerousUrl url = false := by simpa using hd
    simp [hu, hd', spellVal, APart.spell, dangerousUrl_entDecode_escapeHref]

theorem destOk_offTags : OffTags destOk := ⟨fun _ => rfl, fun _ => rfl, fun _ => rfl, fun _ => rfl⟩

theorem cr_dest (st : St) : (W.cr st).1.all destOk = true := cr_all destOk_offTags st

theorem spAttr_dest (o : HtmlOpts) (sp : Sp) : (spAttr o sp).all attrDestOk = true := by
  unfold spAttr; split <;> rfl

theorem alignAttr_dest (al : Align) : (alignAttr al).all attrDestOk = true := by
  cases al <;> rfl

theorem backrefToks_dest (name : Bytes) (ix k n : Nat) : (backrefToks name ix k n).all destOk = true := by
  induction k generalizing n with
  | zero => rfl
  | succ k ih =>
    simp (config := {decide := true}) only [backrefToks, ih, all_toks, destOk, litAttr, attrDestOk_other, S.v_hfnref,
      attrDestOk_fragment]

/-- The `href` / `src` values a node writes are `urlVal` of a document URL or fragments; every other attribute
    has a name for which there is nothing to check. -/
theorem enter_dest (o : HtmlOpts) (hu : o.unsafe_ = false) (nt : NormTable) (cx : Ctx) (v : NodeValue) (sp : Sp)
    (cs : Forest) (st : St) : (enter o nt cx v sp cs st).1.all destOk = true := by
  cases v
  all_goals dsimp only [enter]
  case list l =>
    cases l.ty <;>
      simp (config := {decide := true}) only [all_toks, destOk, litAttr, attrDestOk_other, spAttr_dest, cr_dest]
  case heading level setext =>
    cases o.headerIds <;>
      simp (config := {decide := true}) only [all_toks, destOk, litAttr, attrDestOk_other, spAttr_dest, cr_dest,
        S.v_hash, List.cons_append, List.nil_append, attrDestOk_fragment]
  case alert ty title m fl fo =>
    cases title <;>
      simp (config := {decide := true}) only [all_toks, destOk, litAttr, attrDestOk_other, spAttr_dest, cr_dest]
  case tableRow header =>
    simp only [rowSectionToks, all_toks, destOk, spAttr_dest, cr_dest]
    (repeat' split) <;> rfl
  all_goals simp (config := {decide := true}) only [all_toks, destOk, litAttr, attrDestOk_other, spAttr_dest,
    cr_dest, htmlBlockToks, htmlInlineToks, mathCodeBlockToks, codeBlockAttrs, alignAttr_dest,
    attrDestOk_urlVal o hu, S.v_hfn, List.cons_append, attrDestOk_fragment]

theorem exit_dest (o : HtmlOpts) (cx : Ctx) (v : NodeValue) (cs : Forest) (st : St) :
    (exit o cx v cs st).1.all destOk = true :=
  exit_all destOk_offTags rfl backrefToks_dest o cx v cs st

theorem renderF_dest (o : HtmlOpts) (hu : o.unsafe_ = false) (nt : NormTable) :
    ∀ (f : Forest) (parent grand prev : Option NodeValue) (idx : Nat) (st : St),
      (renderF o nt parent grand prev idx f st).1.all destOk = true :=
  renderF_all_of_nodes (enter_dest o hu nt) (exit_dest o)

theorem renderToks_dest (o : HtmlOpts) (hu : o.unsafe_ = false) (nt : NormTable) (t : Tree) :
    (renderToks o nt t).all destOk = true :=
  renderToks_all_of_nodes (enter_dest o hu nt) (exit_dest o) rfl t

end Comrak
