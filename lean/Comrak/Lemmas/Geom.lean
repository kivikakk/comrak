/-
C04 / C01 helper lemmas: "formatters never meet a node in a context they do not handle".

`geomT` is the formatter-independent reading of that sentence: at every node, the facts about
its surroundings that some formatter relies on without checking (a paragraph has a parent, an
item sits in a list, a table has a row, a row sits in a table, a cell sits in a row of a table
and its index is within the table's alignments).  `geom_of_shape` derives it from the C04
shape predicate by a mutual induction that carries the table geometry two levels down
(table -> rows -> cells).  The XML and CommonMark formatters' own panic sites are then stated
as predicates (`xmlNoPanicT`, `cmNoPanicT`) and shown to follow from `geomT`.
-/
import Comrak.Shape
import Comrak.Xml
import Comrak.Cm
namespace Comrak
open Bytes

def isListV : Option NodeValue → Bool | some (.list _) => true | _ => false

/-- What the formatters take for granted about the surroundings of one node. -/
def nodeGeom (parent grand : Option NodeValue) (idx : Nat) (v : NodeValue) (cs : Forest) : Bool :=
  match v with
  | .paragraph => parent.isSome
  | .item _ => isListV parent
  | .taskItem _ => isListV parent
  | .table .. => decide (cs.length ≥ 1)
  | .tableRow _ => isTable parent
  | .tableCell =>
    isRowV parent && (match grand with | some (.table aligns ..) => decide (idx < aligns.length) | _ => false)
  | _ => true

mutual
def geomT (parent grand : Option NodeValue) (idx : Nat) : Tree → Bool
  | .node v _ cs => nodeGeom parent grand idx v cs && geomF (some v) parent 0 cs
def geomF (parent grand : Option NodeValue) (idx : Nat) : Forest → Bool
  | .nil => true
  | .cons t ts => geomT parent grand idx t && geomF parent grand (idx + 1) ts
end

/-- What has to be known about the context of a node beyond `shapeT parent` of it. -/
def ctxOk (parent grand : Option NodeValue) (idx : Nat) (v : NodeValue) (cs : Forest) : Bool :=
  match v with
  | .paragraph => parent.isSome
  | .item _ => parent.isSome
  | .taskItem _ => parent.isSome
  | .tableRow _ => (match parent with | some (.table aligns ..) => decide (cs.length ≤ aligns.length) | _ => false)
  | .tableCell => (match grand with | some (.table aligns ..) => decide (idx < aligns.length) | _ => false)
  | _ => true

def rowsFit (n : Nat) : Forest → Bool
  | .nil => true
  | .cons (.node v _ cs) r => (match v with | .tableRow _ => decide (cs.length ≤ n) | _ => true) && rowsFit n r

/-- What has to be known about a run of siblings (children of `v`, from index `idx` on). -/
def fctxOk (v : NodeValue) (g : Option NodeValue) (idx : Nat) (f : Forest) : Bool :=
  match v with
  | .table aligns .. => rowsFit aligns.length f
  | .tableRow _ => (match g with | some (.table aligns ..) => decide (idx + f.length ≤ aligns.length) | _ => false)
  | _ => true

theorem cellsOk_rowsFit (n : Nat) : ∀ f : Forest, cellsOk n f = true → rowsFit n f = true
  | .nil, _ => rfl
  | .cons (.node v _ cs) r, h => by
    simp only [cellsOk, Bool.and_eq_true] at h
    simp only [rowsFit, Bool.and_eq_true]
    refine ⟨?_, cellsOk_rowsFit n r h.2⟩
    split
    · exact decide_eq_true (Nat.le_of_eq (beq_iff_eq.1 h.1))
    · rfl

theorem rowsOk_length_pos (cs : Forest) (h : rowsOk cs = true) : cs.length ≥ 1 := by
  cases cs with
  | nil => simp [rowsOk] at h
  | cons t ts => simp [Forest.length]

theorem canContain_item {k : Kind} : (canContain k .item || canContain k .taskItem) = true → k = .list := by
  cases k <;> decide

theorem isListV_of_kind {p : NodeValue} (h : p.kind = .list) : isListV (some p) = true := by
  cases p <;> first | rfl | cases h

theorem isTable_inv {o : Option NodeValue} (h : isTable o = true) : ∃ aligns n r c, o = some (.table aligns n r c) := by
  unfold isTable at h
  split at h
  · exact ⟨_, _, _, _, rfl⟩
  · cases h

theorem isRowV_inv {o : Option NodeValue} (h : isRowV o = true) : ∃ hdr, o = some (.tableRow hdr) := by
  unfold isRowV at h
  split at h
  · exact ⟨_, rfl⟩
  · cases h

/-- An item (or task item) that has a parent at all has a list as parent. -/
theorem item_parent_list {parent : Option NodeValue} {c : Kind}
    (hc : (match parent with | some p => canContain p.kind c | none => true) = true) (hs : parent.isSome = true)
    (hk : c = .item ∨ c = .taskItem) : isListV parent = true := by
  cases parent with
  | none => cases hs
  | some p =>
    refine isListV_of_kind (canContain_item (Bool.or_eq_true_iff.2 ?_))
    rcases hk with rfl | rfl
    · exact Or.inl hc
    · exact Or.inr hc

theorem nodeGeom_of_shape (parent grand : Option NodeValue) (idx : Nat) (v : NodeValue) (cs : Forest)
    (hc : (match parent with | some p => canContain p.kind v.kind | none => true) = true)
    (hp : placeOk parent v = true) (hl : localOk v cs = true) (hx : ctxOk parent grand idx v cs = true) :
    nodeGeom parent grand idx v cs = true := by
  unfold nodeGeom
  split
  · exact hx
  · exact item_parent_list hc hx (Or.inl rfl)
  · exact item_parent_list hc hx (Or.inr rfl)
  · simp only [localOk, Bool.and_eq_true] at hl
    exact decide_eq_true (rowsOk_length_pos cs hl.1.1)
  · exact hp
  · exact Bool.and_eq_true_iff.2 ⟨hp, hx⟩
  · rfl

theorem fctxOk_children (parent grand : Option NodeValue) (idx : Nat) (v : NodeValue) (cs : Forest)
    (hl : localOk v cs = true) (hx : ctxOk parent grand idx v cs = true) :
    fctxOk v parent 0 cs = true := by
  unfold fctxOk
  split
  · simp only [localOk, Bool.and_eq_true, beq_iff_eq] at hl
    rw [hl.1.2]
    exact cellsOk_rowsFit _ cs hl.2
  · simp only [ctxOk] at hx
    split at hx
    · simpa using hx
    · cases hx
  · rfl

theorem ctxOk_head (v : NodeValue) (g : Option NodeValue) (idx : Nat) (w : NodeValue) (sp : Sp) (cs' ts : Forest)
    (hp : placeOk (some v) w = true) (hf : fctxOk v g idx (.cons (.node w sp cs') ts) = true) :
    ctxOk (some v) g idx w cs' = true := by
  unfold ctxOk
  split
  · rfl
  · rfl
  · rfl
  · obtain ⟨aligns, n, r, c, hv⟩ := isTable_inv hp
    cases hv
    simp only [fctxOk, rowsFit, Bool.and_eq_true] at hf
    exact hf.1
  · obtain ⟨hdr, hv⟩ := isRowV_inv hp
    cases hv
    simp only [fctxOk, Forest.length] at hf
    split at hf
    · exact decide_eq_true (by have := of_decide_eq_true hf; omega)
    · cases hf
  · rfl

theorem fctxOk_tail (v : NodeValue) (g : Option NodeValue) (idx : Nat) (t : Tree) (ts : Forest)
    (hf : fctxOk v g idx (.cons t ts) = true) : fctxOk v g (idx + 1) ts = true := by
  unfold fctxOk at hf ⊢
  split at hf
  · cases t with
    | node w sp cs' =>
      simp only [rowsFit, Bool.and_eq_true] at hf
      exact hf.2
  · simp only [Forest.length] at hf
    split at hf
    · exact decide_eq_true (by have := of_decide_eq_true hf; omega)
    · cases hf
  · rfl

mutual
theorem geomT_of_shapeT : ∀ (t : Tree) (parent grand : Option NodeValue) (idx : Nat),
    shapeT parent t = true → ctxOk parent grand idx t.value t.children = true → geomT parent grand idx t = true
  | .node v sp cs, parent, grand, idx, h, hx => by
    simp only [shapeT, Bool.and_eq_true] at h
    simp only [Tree.value, Tree.children] at hx
    simp only [geomT, Bool.and_eq_true]
    exact ⟨nodeGeom_of_shape parent grand idx v cs h.1.1.1 h.1.1.2 h.1.2 hx,
      geomF_of_shapeF cs v parent 0 h.2 (fctxOk_children parent grand idx v cs h.1.2 hx)⟩
theorem geomF_of_shapeF : ∀ (f : Forest) (v : NodeValue) (g : Option NodeValue) (idx : Nat),
    shapeF (some v) f = true → fctxOk v g idx f = true → geomF (some v) g idx f = true
  | .nil, _, _, _, _, _ => rfl
  | .cons (.node w sp cs') ts, v, g, idx, h, hf => by
    simp only [shapeF, Bool.and_eq_true] at h
    have hp : placeOk (some v) w = true := by
      have := h.1
      simp only [shapeT, Bool.and_eq_true] at this
      exact this.1.1.2
    simp only [geomF, Bool.and_eq_true]
    exact ⟨geomT_of_shapeT (.node w sp cs') (some v) g idx h.1 (ctxOk_head v g idx w sp cs' ts hp hf),
      geomF_of_shapeF ts v g (idx + 1) h.2 (fctxOk_tail v g idx _ ts hf)⟩
end

/-- Kinds that may be the root of a tree handed to a formatter: a paragraph, an item or a task
    item as root would have no parent to look at (rows and cells are excluded by `Shape`
    itself).  Every parsed tree has the document as root. -/
def rootOk : NodeValue → Bool
  | .paragraph => false
  | .item _ => false
  | .taskItem _ => false
  | _ => true

theorem geom_of_shape (t : Tree) (h : Shape t = true) (hr : rootOk t.value = true) : geomT none none 0 t = true := by
  apply geomT_of_shapeT t none none 0 h
  cases t with
  | node v sp cs =>
    simp only [Shape, shapeT, Bool.and_eq_true] at h
    have hp : placeOk none v = true := h.1.1.2
    have hr : rootOk v = true := hr
    show ctxOk none none 0 v cs = true
    unfold ctxOk
    split
    · cases hr
    · cases hr
    · cases hr
    · cases hp
    · cases hp
    · rfl

/-- The partial operations of `XmlFormatter::format_node` (`src/xml.rs`): for a table cell,
    `ancestors.next().unwrap()` twice (parent and grandparent must exist) and, below a header
    row of a table, `alignments[ix]` (the index must be within the alignments).  Everything else
    in `format_node` is total (`alert.title.unwrap()` is guarded by `is_some()`, the
    `unreachable!()` of `escape` is behind the `XML_UNSAFE` table that lists exactly its four
    arms: `xmlUnsafe`/`xmlEsc` in the model). -/
def xmlNodeNoPanic (cx : XCtx) (v : NodeValue) : Bool :=
  match v with
  | .tableCell =>
    cx.parent.isSome && cx.grand.isSome &&
    (match cx.parent, cx.grand with
     | some (.tableRow true), some (.table aligns ..) => decide (cx.index < aligns.length)
     | _, _ => true)
  | _ => true

mutual
def xmlNoPanicT (cx : XCtx) : Tree → Bool
  | .node v _ cs => xmlNodeNoPanic cx v && xmlNoPanicF (some v) cx.parent 0 cs
def xmlNoPanicF (parent grand : Option NodeValue) (idx : Nat) : Forest → Bool
  | .nil => true
  | .cons t ts => xmlNoPanicT { parent := parent, grand := grand, index := idx } t && xmlNoPanicF parent grand (idx + 1) ts
end

theorem xmlNode_of_geom (cx : XCtx) (v : NodeValue) (cs : Forest)
    (h : nodeGeom cx.parent cx.grand cx.index v cs = true) : xmlNodeNoPanic cx v = true := by
  unfold xmlNodeNoPanic
  split
  · simp only [nodeGeom, Bool.and_eq_true] at h
    obtain ⟨hdr, hp⟩ := isRowV_inv h.1
    have h2 := h.2
    split at h2
    · rename_i hgrand
      simp only [hp, hgrand, Option.isSome_some, Bool.true_and]
      split
      · rename_i e
        cases e
        exact h2
      · rfl
    · cases h2
  · rfl

mutual
theorem xmlNoPanicT_of_geom : ∀ (t : Tree) (cx : XCtx), geomT cx.parent cx.grand cx.index t = true → xmlNoPanicT cx t = true
  | .node v sp cs, cx, h => by
    simp only [geomT, Bool.and_eq_true] at h
    simp only [xmlNoPanicT, Bool.and_eq_true]
    exact ⟨xmlNode_of_geom cx v cs h.1, xmlNoPanicF_of_geom cs (some v) cx.parent 0 h.2⟩
theorem xmlNoPanicF_of_geom : ∀ (f : Forest) (parent grand : Option NodeValue) (idx : Nat),
    geomF parent grand idx f = true → xmlNoPanicF parent grand idx f = true
  | .nil, _, _, _, _ => rfl
  | .cons t ts, parent, grand, idx, h => by
    simp only [geomF, Bool.and_eq_true] at h
    simp only [xmlNoPanicF, Bool.and_eq_true]
    exact ⟨xmlNoPanicT_of_geom t { parent := parent, grand := grand, index := idx } h.1,
      xmlNoPanicF_of_geom ts parent grand (idx + 1) h.2⟩
end

/-- Where the XML model reads `aligns.getD ix none` in place of the code's `alignments[ix]`:
    under `xmlNodeNoPanic` the default is never used. -/
theorem xml_align_in_range (cx : XCtx) (aligns : List Align) (n r c : Nat)
    (hp : cx.parent = some (.tableRow true)) (hg : cx.grand = some (.table aligns n r c))
    (h : xmlNodeNoPanic cx .tableCell = true) :
    ∃ hlt : cx.index < aligns.length, aligns.getD cx.index .none = aligns[cx.index] := by
  simp only [xmlNodeNoPanic, hp, hg, Option.isSome_some, Bool.true_and, decide_eq_true_eq] at h
  exact ⟨h, by simp [List.getD, h]⟩

/-- The partial operations of `CommonMarkFormatter::format_node` (`src/cm.rs`):
    * `format_item` (items and task items): `node.parent().unwrap()` and `unreachable!()` unless
      the parent is a list;
    * `format_code`: `literal[0]` is read before `literal.is_empty()` is consulted, so the
      literal must not be empty (the parser guarantees it: `normalizeCode_nonempty`, C01);
    * `format_table_cell` on exit: `node.parent().unwrap()` and `panic!()` unless the parent is a
      row; for the last cell of a header row also `.parent().unwrap().parent().unwrap()` and
      `panic!()` unless the grandparent is a table.
    (`get_in_tight_list_item`'s `tmp.parent().unwrap()` is reached only for an item that is
    somebody's child; `alert.title.unwrap()` is guarded; `format_code_block`'s `literal[0]` is
    behind `literal.len() <= 2 ||`; the `write!(..).unwrap()`s write to a `Vec`.  The debug-build
    `validate()` panic at the top of `format_document` is `shape_validate`.) -/
def cmNodeNoPanic (cx : Cm.Ctx) (v : NodeValue) : Bool :=
  match v with
  | .item _ => isListV cx.parent
  | .taskItem _ => isListV cx.parent
  | .code _ lit => !lit.isEmpty
  | .tableCell =>
    (match cx.parent with
     | some (.tableRow h) => !(h && cx.next.isNone) || isTable cx.grand
     | _ => false)
  | _ => true

mutual
def cmNoPanicT (cx : Cm.Ctx) : Tree → Bool
  | .node v _ cs => cmNodeNoPanic cx v && cmNoPanicF (some v) cx.parent false cs
def cmNoPanicF (parent grand : Option NodeValue) (hasPrev : Bool) : Forest → Bool
  | .nil => true
  | .cons t ts =>
    cmNoPanicT { parent := parent, grand := grand, hasPrev := hasPrev,
                 next := (match ts with | .cons n _ => some n.value | .nil => none) } t &&
    cmNoPanicF parent grand true ts
end

def codeLitNonEmpty : NodeValue → Bool
  | .code _ lit => !lit.isEmpty
  | _ => true

theorem cmNode_of_geom (cx : Cm.Ctx) (idx : Nat) (v : NodeValue) (cs : Forest)
    (h : nodeGeom cx.parent cx.grand idx v cs = true) (hc : codeLitNonEmpty v = true) :
    cmNodeNoPanic cx v = true := by
  unfold cmNodeNoPanic
  split
  · exact h
  · exact h
  · exact hc
  · simp only [nodeGeom, Bool.and_eq_true] at h
    obtain ⟨hdr, hp⟩ := isRowV_inv h.1
    have hg : isTable cx.grand = true := by
      have h2 := h.2
      split at h2
      · rename_i hgrand
        rw [hgrand]; rfl
      · cases h2
    simp only [hp, hg, Bool.or_true]
  · rfl

mutual
theorem cmNoPanicT_of_geom : ∀ (t : Tree) (cx : Cm.Ctx) (idx : Nat),
    geomT cx.parent cx.grand idx t = true → t.allV codeLitNonEmpty = true → cmNoPanicT cx t = true
  | .node v sp cs, cx, idx, h, hc => by
    simp only [geomT, Bool.and_eq_true] at h
    simp only [Tree.allV, Bool.and_eq_true] at hc
    simp only [cmNoPanicT, Bool.and_eq_true]
    exact ⟨cmNode_of_geom cx idx v cs h.1 hc.1, cmNoPanicF_of_geom cs (some v) cx.parent false 0 h.2 hc.2⟩
theorem cmNoPanicF_of_geom : ∀ (f : Forest) (parent grand : Option NodeValue) (hp : Bool) (idx : Nat),
    geomF parent grand idx f = true → f.allV codeLitNonEmpty = true → cmNoPanicF parent grand hp f = true
  | .nil, _, _, _, _, _, _ => rfl
  | .cons t ts, parent, grand, hp, idx, h, hc => by
    simp only [geomF, Bool.and_eq_true] at h
    simp only [Forest.allV, Bool.and_eq_true] at hc
    simp only [cmNoPanicF, Bool.and_eq_true]
    exact ⟨cmNoPanicT_of_geom t _ idx h.1 hc.1, cmNoPanicF_of_geom ts parent grand true (idx + 1) h.2 hc.2⟩
end

end Comrak
