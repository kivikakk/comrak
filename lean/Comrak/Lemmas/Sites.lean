/-
Lemmas for the consultation-site theorems of C13.  A site reads an option only next to a test of a byte against
one of the option's trigger bytes: either the test is written in the site (`site_simp`), or a scanner that must
succeed first needs such a byte in its input (`scan*_needs_*`).
-/
import Comrak.Inline.Sites
namespace Comrak
open Bytes

/-- case split on the feature, `trigger F c = false` unfolded to (in)equalities on `c`, then simp. -/
macro "site_tac" F:ident h:ident "[" ds:Lean.Parser.Tactic.simpLemma,* "]" : tactic =>
  `(tactic| (cases $F:ident <;>
    simp only [trigger, triggerBytes, List.contains_cons, List.contains_nil, Bool.or_false,
      Bool.or_eq_false_iff] at $h:ident <;>
    first
      | rfl
      | (have h2 := $h:ident; simp only [beq_eq_false_iff_ne, ne_eq] at h2
         simp [$ds,*, Opts.enable, $h:ident, h2] <;> (try rfl) <;> (try (repeat' split) <;> simp_all))))

/-- `site_simp h [site]`, for a goal `site (o.enable F) .. = site o ..` with `F` a concrete feature the site
    reads and `h : trigger F c = false`: `h` becomes `(c == b) = false` for each trigger byte `b` of `F`;
    every read of the option sits next to such a test, so rewriting the tests to `false` removes the reads,
    and the fields still read are not touched by `enable F` (`rfl`). -/
macro "site_simp" h:ident "[" ds:Lean.Parser.Tactic.simpLemma,* "]" : tactic =>
  `(tactic| (
      simp only [trigger, triggerBytes, List.contains_cons, List.contains_nil, Bool.or_false,
        Bool.or_eq_false_iff] at $h:ident
      simp only [$ds,*, bne, $h:ident, Bool.and_false, Bool.or_false, if_false]
      try rfl))

theorem triggerFree_iff {F : Feature} {s : Bytes} :
    triggerFree F s = true ↔ ∀ b ∈ s, trigger F b = false := by
  simp [triggerFree]

theorem siteTableOpen_stop (o : Opts) (v : TableView) (hs : v.startMatches = false) (hk : v.kind ≠ .table) :
    siteTableOpen o v = .stop := by
  unfold siteTableOpen
  split
  · split
    · simp [hs]
    · exact absurd ‹_› hk
    · rfl
  · rfl

theorem scanMultilineFence_needs_gt (rest : Bytes) (n : Nat) (h : scanMultilineFence rest = some n) :
    rest.head? = some 0x3E := by
  cases rest with
  | nil => simp [scanMultilineFence, gtRun] at h
  | cons c r =>
    by_cases hc : c = 0x3E
    · simp [hc]
    · have : gtRun (c :: r) = 0 := by
        unfold gtRun
        split
        · rename_i heq; injection heq with h1 _; exact absurd h1 hc
        · rfl
      simp [scanMultilineFence, this] at h

theorem scanFootnoteDefinition_needs_caret (rest : Bytes) (n : Nat) (h : scanFootnoteDefinition rest = some n) :
    (0x5E : UInt8) ∈ rest := by
  unfold scanFootnoteDefinition at h
  split at h
  · simp
  · simp at h

theorem scanTasklist_needs_bracket (text : Bytes) (s : UInt8) (h : scanTasklist text = some s) :
    (0x5B : UInt8) ∈ text := by
  have key : ∀ t : Bytes, (0x5B : UInt8) ∈ dropSpaceChars t → (0x5B : UInt8) ∈ t := by
    intro t
    induction t with
    | nil => simp [dropSpaceChars]
    | cons c r ih =>
      simp only [dropSpaceChars]
      split
      · intro hm; exact List.mem_cons_of_mem _ (ih hm)
      · exact id
  apply key
  simp only [scanTasklist] at h
  split at h
  · simp_all
  · simp at h

end Comrak
