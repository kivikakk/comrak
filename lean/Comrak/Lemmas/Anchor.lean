/-
Lemmas for C15 (anchors): the decimal spelling is injective, hence the candidates
`id, id-1, id-2, ...` are pairwise different, hence (pigeonhole) `issued.length + 1` of them
cannot all be in `issued`.
-/
import Comrak.Anchor
namespace Comrak
open Bytes

/-- Value of a decimal digit string read on top of `v`. -/
def decVal (v : Nat) (ds : Bytes) : Nat := ds.foldl (fun v c => v * 10 + (c.toNat - 48)) v

theorem decVal_append (v : Nat) (a b : Bytes) : decVal v (a ++ b) = decVal (decVal v a) b := by
  simp [decVal, List.foldl_append]

theorem digit_toNat (n : Nat) : (UInt8.ofNat (48 + n % 10)).toNat - 48 = n % 10 := by
  have h : n % 10 < 10 := Nat.mod_lt _ (by omega)
  have h2 : ∀ m : Fin 10, (UInt8.ofNat (48 + m.val)).toNat - 48 = m.val := by decide
  exact h2 ⟨n % 10, h⟩

theorem decVal_digit (v n : Nat) : decVal v [UInt8.ofNat (48 + n % 10)] = v * 10 + n % 10 := by
  rw [decVal, List.foldl_cons, List.foldl_nil, digit_toNat]

theorem ofNatDecAux_spec : ∀ (fuel n : Nat) (acc : Bytes), n < fuel →
    ∃ ds, ofNatDecAux fuel n acc = ds ++ acc ∧ decVal 0 ds = n
  | 0, _, _, h => absurd h (Nat.not_lt_zero _)
  | k + 1, n, acc, h => by
    rw [ofNatDecAux]
    by_cases hlt : n < 10
    · rw [if_pos hlt]
      exact ⟨[UInt8.ofNat (48 + n % 10)], rfl,
        by rw [decVal_digit, Nat.zero_mul, Nat.zero_add, Nat.mod_eq_of_lt hlt]⟩
    · rw [if_neg hlt]
      obtain ⟨ds, h1, h2⟩ := ofNatDecAux_spec k (n / 10) (UInt8.ofNat (48 + n % 10) :: acc) (by omega)
      exact ⟨ds ++ [UInt8.ofNat (48 + n % 10)], by rw [h1, List.append_assoc]; rfl,
        by rw [decVal_append, h2, decVal_digit, Nat.div_add_mod']⟩

theorem decVal_ofNatDec (n : Nat) : decVal 0 (ofNatDec n) = n := by
  obtain ⟨ds, h1, h2⟩ := ofNatDecAux_spec (n + 1) n [] (by omega)
  unfold ofNatDec
  rw [h1, List.append_nil, h2]

theorem ofNatDec_injective {m n : Nat} (h : ofNatDec m = ofNatDec n) : m = n := by
  rw [← decVal_ofNatDec m, ← decVal_ofNatDec n, h]

theorem anchorCand_injective (id : Bytes) {j k : Nat} (h : anchorCand id j = anchorCand id k) : j = k := by
  unfold anchorCand at h
  by_cases hj : j = 0 <;> by_cases hk : k = 0
  · rw [hj, hk]
  · rw [if_pos hj, if_neg hk] at h
    have := congrArg List.length h
    simp at this
  · rw [if_neg hj, if_pos hk] at h
    have := congrArg List.length h
    simp at this
  · rw [if_neg hj, if_neg hk] at h
    exact ofNatDec_injective (List.append_cancel_left h)

/-! `anchorLoop` (over the set of issued anchors) and `memoLoop` (over the keys of the map, Comrak/Anchor.lean) both look
for the first suffix from `uniq` on whose candidate is not taken.  That search, and the number of its probes: -/

def firstFree (taken : Nat → Bool) : Nat → Nat → Option Nat
  | 0, _ => none
  | fuel + 1, uniq => if taken uniq then firstFree taken fuel (uniq + 1) else some uniq

def firstFreeProbes (taken : Nat → Bool) : Nat → Nat → Nat
  | 0, _ => 0
  | fuel + 1, uniq => if taken uniq then 1 + firstFreeProbes taken fuel (uniq + 1) else 1

theorem firstFree_some (taken : Nat → Bool) (fuel uniq u : Nat) (h : firstFree taken fuel uniq = some u) :
    uniq ≤ u ∧ taken u = false ∧ (∀ j, uniq ≤ j → j < u → taken j = true) ∧
      firstFreeProbes taken fuel uniq = u + 1 - uniq := by
  fun_induction firstFree taken fuel uniq with
  | case1 => nomatch h
  | case2 fuel uniq ht ih =>
    obtain ⟨h1, h3, h4, h5⟩ := ih h
    refine ⟨Nat.le_of_succ_le h1, h3, fun j hj hju => ?_, by rw [firstFreeProbes, if_pos ht, h5]; omega⟩
    by_cases e : j = uniq
    · rw [e]; exact ht
    · exact h4 j (Nat.lt_of_le_of_ne hj (Ne.symm e)) hju
  | case3 fuel uniq ht =>
    cases h
    exact ⟨Nat.le_refl _, Bool.not_eq_true _ ▸ ht, fun j h1 h2 => absurd h1 (Nat.not_le_of_lt h2),
      by rw [firstFreeProbes, if_neg ht, Nat.add_sub_cancel_left]⟩

theorem firstFree_none (taken : Nat → Bool) (fuel uniq : Nat) (h : firstFree taken fuel uniq = none) (j : Nat)
    (h1 : uniq ≤ j) (h2 : j < uniq + fuel) : taken j = true := by
  fun_induction firstFree taken fuel uniq with
  | case1 => exact absurd h1 (Nat.not_le_of_lt h2)
  | case2 fuel uniq ht ih =>
    by_cases e : j = uniq
    · rw [e]; exact ht
    · exact ih h (Nat.lt_of_le_of_ne h1 (Ne.symm e)) (by omega)
  | case3 => cases h

theorem least_failure_unique {P : Nat → Prop} {a b : Nat} (ha : ¬ P a) (hb : ¬ P b)
    (hlta : ∀ j, j < a → P j) (hltb : ∀ j, j < b → P j) : a = b := by
  rcases Nat.lt_trichotomy a b with h | h | h
  · exact absurd (hltb a h) ha
  · exact h
  · exact absurd (hlta b h) hb

/-- Pigeonhole: `l.length + 1` pairwise different candidates are not all in `l`, so the search over them succeeds. -/
theorem firstFree_isSome (taken : Nat → Bool) (id : Bytes) (l : List Bytes)
    (hl : ∀ j, taken j = true → anchorCand id j ∈ l) (uniq : Nat) :
    ∃ u, firstFree taken (l.length + 1) uniq = some u := by
  cases h : firstFree taken (l.length + 1) uniq with
  | some u => exact ⟨u, rfl⟩
  | none =>
    have hnd : ((List.range' uniq (l.length + 1)).map (anchorCand id)).Nodup :=
      List.Pairwise.map _ (fun a b hab he => hab (anchorCand_injective id he)) List.nodup_range'
    have hsub : (List.range' uniq (l.length + 1)).map (anchorCand id) ⊆ l := by
      intro x hx
      obtain ⟨j, hj, rfl⟩ := List.mem_map.mp hx
      exact hl j (firstFree_none taken _ uniq h j (List.mem_range'_1.mp hj).1 (List.mem_range'_1.mp hj).2)
    have := hnd.length_le_of_subset hsub
    rw [List.length_map, List.length_range'] at this
    exact absurd this (Nat.not_succ_le_self _)

theorem anchorLoop_eq_firstFree (issued : List Bytes) (id : Bytes) : ∀ (fuel uniq : Nat),
    anchorLoop issued id fuel uniq =
      (firstFree (fun j => issued.contains (anchorCand id j)) fuel uniq).map (anchorCand id)
  | 0, _ => rfl
  | fuel + 1, uniq => by
    show (if issued.contains (anchorCand id uniq) then anchorLoop issued id fuel (uniq + 1)
      else some (anchorCand id uniq)) = _
    rw [firstFree, anchorLoop_eq_firstFree issued id fuel (uniq + 1)]
    cases issued.contains (anchorCand id uniq) <;> rfl

theorem anchorLoopProbes_eq (issued : List Bytes) (id : Bytes) : ∀ (fuel uniq : Nat),
    anchorLoopProbes issued id fuel uniq = firstFreeProbes (fun j => issued.contains (anchorCand id j)) fuel uniq
  | 0, _ => rfl
  | fuel + 1, uniq => by rw [anchorLoopProbes, firstFreeProbes, anchorLoopProbes_eq issued id fuel (uniq + 1)]

theorem anchorLoop_spec (issued : List Bytes) (id : Bytes) :
    ∃ u, anchorLoop issued id (issued.length + 1) 0 = some (anchorCand id u) ∧
      anchorLoopProbes issued id (issued.length + 1) 0 = u + 1 ∧
      anchorCand id u ∉ issued ∧ ∀ j, j < u → anchorCand id j ∈ issued := by
  obtain ⟨u, hu⟩ := firstFree_isSome (fun j => issued.contains (anchorCand id j)) id issued
    (fun j h => List.contains_iff_mem.mp h) 0
  obtain ⟨_, h3, h4, h5⟩ := firstFree_some _ _ _ _ hu
  refine ⟨u, by rw [anchorLoop_eq_firstFree, hu]; rfl, by rw [anchorLoopProbes_eq, h5]; rfl, ?_, fun j hj => ?_⟩
  · intro hm; rw [List.contains_iff_mem.mpr hm] at h3; cases h3
  · exact List.contains_iff_mem.mp (h4 j (Nat.zero_le _) hj)

theorem anchorize_eq (nt : NormTable) (issued : List Bytes) (header : Bytes) :
    ∃ u, anchorize nt issued header = (anchorCand (nt.norm header) u, anchorCand (nt.norm header) u :: issued) ∧
      anchorCand (nt.norm header) u ∉ issued ∧ ∀ j, j < u → anchorCand (nt.norm header) j ∈ issued := by
  obtain ⟨u, hu, _, h1, h2⟩ := anchorLoop_spec issued (nt.norm header)
  exact ⟨u, by simp only [anchorize, hu], h1, h2⟩

theorem anchorizeFrom_spec (nt : NormTable) (hs : List Bytes) (issued : List Bytes) :
    (∀ a ∈ anchorizeFrom nt issued hs, a ∉ issued) ∧ (anchorizeFrom nt issued hs).Nodup := by
  induction hs generalizing issued with
  | nil => exact ⟨fun a h => absurd h List.not_mem_nil, List.nodup_nil⟩
  | cons h hs ih =>
    obtain ⟨u, e, hf, _⟩ := anchorize_eq nt issued h
    obtain ⟨i1, i2⟩ := ih (anchorCand (nt.norm h) u :: issued)
    simp only [anchorizeFrom, e]
    refine ⟨fun a ha => ?_, List.nodup_cons.mpr ⟨fun hm => i1 _ hm List.mem_cons_self, i2⟩⟩
    rcases List.mem_cons.mp ha with rfl | ha
    · exact hf
    · exact fun hi => i1 a ha (List.mem_cons_of_mem _ hi)

end Comrak
