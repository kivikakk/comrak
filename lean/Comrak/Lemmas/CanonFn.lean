/-
C03, footnotes and whole documents.  The footnote definitions at the end of the tree are the only
nodes whose rendering reads and writes more of the writer state than `last_was_lf` (`footnote_ix`,
`written_footnote_ix`), so they are followed through with `RT w st st' bs`: run from the state
`st`, the writer `w` spells `bs` and ends in `st'`.
-/
import Comrak.Lemmas.CanonBlk
namespace Comrak.Canon
open Comrak Bytes

def RT (w : W) (st st' : St) (bs : Bytes) : Prop := spell (w st).1 = bs ∧ (w st).2 = st'

theorem RT_seq {a b : W} {st st1 st2 : St} {x y : Bytes} (ha : RT a st st1 x) (hb : RT b st1 st2 y) :
    RT (a ⨟ b) st st2 (x ++ y) := by
  obtain ⟨a1, a2⟩ := ha
  obtain ⟨b1, b2⟩ := hb
  exact ⟨by rw [W.seq_fst, spell_append, a1, a2, b1], by rw [W.seq_snd, a2, b2]⟩

theorem RT_of_R {w : W} {lf : Bool} {bs : Bytes} (h : R w lf bs) (st : St) (hl : st.lastLf = lf) :
    RT w st { st with lastLf := lastLfAfter lf bs } bs := h st hl

theorem RT_congr {w : W} {st st1 st2 : St} {x y : Bytes} (h : RT w st st1 x) (e1 : st1 = st2) (e2 : x = y) :
    RT w st st2 y := e1 ▸ e2 ▸ h

theorem RT_emit (ts : List Tok) (st : St) : RT (W.emit ts) st { st with lastLf := lastLfAfter st.lastLf (spell ts) } (spell ts) :=
  ⟨rfl, rfl⟩

theorem RT_nop (st : St) : RT W.nop st st [] := ⟨rfl, rfl⟩

theorem blks_then : ∀ (bs : Blks), bs.safe = true →
    ∀ (tail : Forest) (p g prev : Option NodeValue) (idx : Nat) (st st2 : St) (X : Bytes), okParent p = true →
    (∀ prev' idx', RT (renderF {} {} p g prev' idx' tail)
        { st with lastLf := lastLfAfter st.lastLf (bs.html (pt p g) st.lastLf) } st2 X) →
    RT (renderF {} {} p g prev idx (bs.toForestThen tail)) st st2 (bs.html (pt p g) st.lastLf ++ X)
  | .nil, _, tail, p, g, prev, idx, st, st2, X, _, ht => ht prev idx
  | .cons b r, h, tail, p, g, prev, idx, st, st2, X, hp, ht => by
    simp only [Blks.safe, Bool.and_eq_true] at h
    rw [Blks.toForestThen, renderF_seq, Blks.html]
    have hb := RT_of_R (blk_goal b h.1 ⟨p, g, prev, (r.toForestThen tail).isNil, idx⟩ st.lastLf hp) st rfl
    have hr := blks_then r h.2 tail p g (some b.toTree.value) (idx + 1)
      { st with lastLf := lastLfAfter st.lastLf (b.html (pt p g) st.lastLf) } st2 X hp (fun prev' idx' => by
      have := ht prev' idx'
      simp only [Blks.html, atBol_eq, lastLfAfter_append] at this
      exact this)
    exact RT_congr (RT_seq hb hr) rfl (List.append_assoc ..).symm

/-- One back-link without its `<sup>` counter; `sfx` is the `-N` suffix, `dec` the note number.  Stated after a
    prefix `P`, the way it occurs in `refBackrefs`. -/
theorem spell_backref (P name sfx dec : Bytes) (hn : escapeHref name = name) :
    P ++ spell [Tok.op S.t_a [⟨S.a_href, some [.lit S.v_hfnref, .href name, .lit sfx]⟩, litAttr S.a_class S.v_footnote_backref,
        ⟨S.a_data_footnote_backref, none⟩, litAttr S.a_data_footnote_backref_idx (dec ++ sfx),
        litAttr S.a_aria_label (S.v_back_to_reference ++ dec ++ sfx)], Tok.lit S.v_backarrow] =
      P ++ H.backref_open ++ name ++ sfx ++ H.backref_cls ++ dec ++ sfx ++ H.backref_aria ++ dec ++ sfx ++ H.backref_arrow := by
  simp only [spelled, hn]
  rfl

theorem spell_backrefs (name : Bytes) (hn : name.all isAsciiAlnum = true) (ix : Nat) : ∀ (k n : Nat),
    spell (backrefToks name ix k n) = refBackrefs name ix k n
  | 0, _ => rfl
  | k + 1, n => by
    have hsup : spell [Tok.op S.t_sup [litAttr S.a_class S.v_footnote_ref], Tok.lit (ofNatDec n), Tok.cl S.t_sup] =
        H.backref_sup_open ++ ofNatDec n ++ H.backref_sup_close := rfl
    rw [backrefToks, refBackrefs, spell_append, spell_append, spell_append, spell_append, spell_ite, spell_ite, hsup,
      spell_backrefs name hn ix k (n + 1), spell_backref _ _ _ _ (escapeHref_name name hn)]
    rfl

theorem putBackref_lt (name : Bytes) (total : Nat) (st : St) (h : st.writtenFnIx < st.fnIx) :
    putBackref name total st = (W.emit (backrefToks name st.fnIx total 1) { st with writtenFnIx := st.fnIx }, true) := by
  unfold putBackref; rw [if_neg (Nat.not_le.mpr h)]

theorem putBackref_ge (name : Bytes) (total : Nat) (st : St) (h : st.fnIx ≤ st.writtenFnIx) :
    putBackref name total st = (([], st), false) := by
  unfold putBackref; rw [if_pos h]

def secOpen (k : Nat) : Bytes := if k = 0 then H.fn_section_open else []

theorem spell_op_nonl (l : Bool) (t : Bytes) (as : List Attr) : lastLfAfter l (spell [Tok.op t as]) = false := by
  have : spell [Tok.op t as] = ([0x3C] ++ t ++ spellAttrs as) ++ [0x3E] := List.append_nil _
  rw [this]; exact lastLfAfter_append_of (v := false) rfl l _

/-- `exit` of a definition whose back-links are written already. -/
theorem fnDef_exit (name : Bytes) (total k : Nat) (an : List Bytes) (cx : Ctx) (cs : Forest) :
    RT (exit {} cx (.footnoteDefinition name total) cs) ⟨true, k + 1, k + 1, an⟩ ⟨true, k + 1, k + 1, an⟩ H.li_close := by
  unfold RT exit
  simp only [putBackref_ge name total ⟨true, k + 1, k + 1, an⟩ (Nat.le_refl _)]
  exact ⟨rfl, rfl⟩

section note
variable (name : Bytes) (total : Nat) (hn : name.all isAsciiAlnum = true) (k : Nat) (an : List Bytes)
include hn

theorem fnDef_enter (cx : Ctx) (sp : Sp) (cs : Forest) (w : Nat) :
    RT (enter {} {} cx (.footnoteDefinition name total) sp cs) ⟨true, k, w, an⟩ ⟨false, k + 1, w, an⟩
      (secOpen k ++ (H.fn_li_open ++ name ++ H.q_gt)) := by
  have hI : RT (fun (s : St) => (([] : List Tok), { s with fnIx := s.fnIx + 1 })) ⟨true, k, w, an⟩ ⟨true, k + 1, w, an⟩ [] :=
    ⟨rfl, rfl⟩
  have hE : RT (W.emit [.op S.t_li [⟨S.a_id, some [.lit S.v_fn, .href name]⟩]]) ⟨true, k + 1, w, an⟩ ⟨false, k + 1, w, an⟩
      (H.fn_li_open ++ name ++ H.q_gt) :=
    RT_congr (RT_emit _ _) (by rw [spell_op_nonl]) (by simp only [spelled, escapeHref_name name hn]; rfl)
  cases k with
  | zero =>
    have hO : RT (W.emit [.op S.t_section [litAttr S.a_class S.v_footnotes, ⟨S.a_data_footnotes, none⟩], nl, .op S.t_ol [], nl])
        ⟨true, 0, w, an⟩ ⟨true, 0, w, an⟩ H.fn_section_open := ⟨rfl, rfl⟩
    exact RT_congr (RT_seq (RT_seq hO hI) hE) rfl (by rw [List.append_nil]; rfl)
  | succ k => exact RT_seq (RT_seq (RT_nop _) hI) hE

theorem fnPara_exit (prev : Option NodeValue) (idx : Nat) (cs : Forest) (l : Bool) :
    RT (exit {} ⟨some (.footnoteDefinition name total), some .document, prev, true, idx⟩ .paragraph cs)
      ⟨l, k + 1, k, an⟩ ⟨true, k + 1, k + 1, an⟩ (H.sp ++ refBackrefs name (k + 1) total 1 ++ H.p_close) := by
  have h2 : RT (fun (s : St) => (putBackref name total s).1) ⟨false, k + 1, k, an⟩
      ⟨lastLfAfter false (refBackrefs name (k + 1) total 1), k + 1, k + 1, an⟩ (refBackrefs name (k + 1) total 1) := by
    show spell (putBackref name total ⟨false, k + 1, k, an⟩).1.1 = _ ∧ (putBackref name total ⟨false, k + 1, k, an⟩).1.2 = _
    rw [putBackref_lt name total ⟨false, k + 1, k, an⟩ (Nat.lt_succ_self k), ← spell_backrefs name hn]
    exact ⟨rfl, rfl⟩
  show RT ((W.emit [.lit [0x20]] ⨟ (fun (s : St) => (putBackref name total s).1)) ⨟ W.emit [.cl S.t_p, nl]) _ _ _
  exact RT_seq (RT_seq (RT_emit [.lit [0x20]] _) h2) (RT_emit [.cl S.t_p, nl] _)

end note

theorem note_goal (n : Note) (hs : n.safe = true) (g prev : Option NodeValue) (last : Bool) (idx k : Nat) (an : List Bytes) :
    RT (renderT {} {} ⟨some .document, g, prev, last, idx⟩ n.toTree) ⟨true, k, k, an⟩ ⟨true, k + 1, k + 1, an⟩
      (secOpen k ++ refNote n (k + 1)) := by
  simp only [Note.safe, Bool.and_eq_true] at hs
  let cxP : Ctx := ⟨some (.footnoteDefinition n.name n.total), some .document, none, true, 0⟩
  have hP1 := RT_of_R (enter_para cxP {} n.body.toForest false) ⟨false, k + 1, k, an⟩ rfl
  have hP2 := RT_of_R (inls_goal n.body hs.2 (some .paragraph) cxP.parent none 0 false) ⟨false, k + 1, k, an⟩ rfl
  have hC := RT_seq (RT_seq (RT_seq hP1 hP2) (fnPara_exit n.name n.total hs.1 k an none 0 n.body.toForest _)) (RT_nop _)
  rw [Note.toTree, renderT_html rfl, renderF_seq, renderF_nil, renderT_html rfl]
  refine RT_congr (RT_seq (RT_seq (fnDef_enter n.name n.total hs.1 k an _ _ _ k) hC) (fnDef_exit n.name n.total k an _ _)) rfl ?_
  simp only [refNote, List.append_assoc, List.append_nil]
  rfl

/-- The notes as the formatter writes them when `k` notes have been written before. -/
def notesFrom : Nat → List Note → Bytes
  | _, [] => []
  | k, n :: r => secOpen k ++ refNote n (k + 1) ++ notesFrom (k + 1) r

theorem notes_goal : ∀ (notes : List Note), notes.all Note.safe = true →
    ∀ (g prev : Option NodeValue) (idx : Nat) (k : Nat) (an : List Bytes),
    RT (renderF {} {} (some .document) g prev idx (notesForest notes)) ⟨true, k, k, an⟩
      ⟨true, k + notes.length, k + notes.length, an⟩ (notesFrom k notes)
  | [], _, g, prev, idx, k, an => by
    rw [notesForest, renderF_nil]
    exact RT_nop _
  | n :: r, h, g, prev, idx, k, an => by
    simp only [List.all_cons, Bool.and_eq_true] at h
    rw [notesForest, renderF_seq, notesFrom, List.length_cons, ← Nat.add_assoc, Nat.add_right_comm k]
    exact RT_seq (note_goal n h.1 g prev _ idx k an) (notes_goal r h.2 g (some n.toTree.value) (idx + 1) (k + 1) an)

theorem notesFrom_items : ∀ (notes : List Note) (k : Nat), notesFrom (k + 1) notes = refNoteItems (k + 2) notes
  | [], _ => rfl
  | n :: r, k => by
    rw [notesFrom, refNoteItems, notesFrom_items r (k + 1)]
    rfl

theorem doc_goal (d : Doc) (h : d.safe = true) : renderHtml {} {} d.toTree = d.refHtml := by
  simp only [Doc.safe, Bool.and_eq_true] at h
  have hb := blks_then d.blocks h.1 (notesForest d.notes) (some .document) none none 0 ⟨true, 0, 0, []⟩
    ⟨true, 0 + d.notes.length, 0 + d.notes.length, []⟩ (notesFrom 0 d.notes) rfl
    (fun prev' idx' => by
      have e : pt (some .document) none = false := rfl
      rw [e, blks_nl d.blocks]
      exact notes_goal d.notes h.2 none prev' idx' 0 [])
  have hd : RT (renderT {} {} {} d.toTree) {} ⟨true, 0 + d.notes.length, 0 + d.notes.length, []⟩
      (d.blocks.html false true ++ notesFrom 0 d.notes) := by
    rw [Doc.toTree, renderT_html rfl]
    exact RT_congr (RT_seq (RT_seq (RT_nop _) hb) (RT_nop _)) rfl (List.append_nil _)
  obtain ⟨h1, h2⟩ := hd
  unfold renderHtml renderToks
  rw [W.seq_fst, spell_append, h1, h2, Doc.refHtml, refNotes, finish]
  cases d.notes with
  | nil => exact List.append_nil _
  | cons n r =>
    rw [if_pos (by simp only [List.length_cons]; omega)]
    simp only [notesFrom, notesFrom_items, List.isEmpty_cons, Bool.false_eq_true, if_false, refNoteItems, List.append_assoc]
    rfl

end Comrak.Canon
