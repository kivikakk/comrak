/-
Positions of canonical documents, layer G: the lines of a whole document (groups a blank line apart)
and its footnote definitions.
-/
import Comrak.Lemmas.CanonPosF
namespace Comrak.Canon
open Comrak Bytes

def Doc.glines (d : Doc) : List Bytes :=
  let ds := d.useDefs
  joinGroups
    ([ (ds.filter (fun x => x.before)).map RefDef.line,
       d.blocks.lines false,
       (ds.filter (fun x => !x.before) ++ d.shadow).map RefDef.line ] ++
     d.writtenNotes.map fun n => [n.line])

theorem Doc.write_eq (d : Doc) : d.write = joinLines d.glines := rfl

theorem nth_append_right (xs ys : List Bytes) (k : Nat) : nth (xs ++ ys) (xs.length + k) = nth ys k := by
  rw [nth_eq, nth_eq, List.getElem?_append_right (Nat.le_add_right _ _), Nat.add_sub_cancel_left]

theorem nth_beyond (xs : List Bytes) (k : Nat) (h : xs.length ≤ k) : nth xs k = [] := by
  rw [nth_eq, List.getElem?_eq_none h]; rfl

theorem nth_ne_lt (xs : List Bytes) (k : Nat) (h : nth xs k ≠ []) : k < xs.length :=
  Nat.lt_of_not_le fun hk => h (nth_beyond xs k hk)

/-- Where the lines of the groups after the first stand. -/
def gOff (g : List Bytes) : Nat := if g.isEmpty then 0 else g.length + 1

theorem joinGroups_head (g : List Bytes) (rest : List (List Bytes)) (k : Nat) (hk : k < g.length) :
    nth (joinGroups (g :: rest)) k = nth g k := by
  simp only [joinGroups]
  have hg : g.isEmpty = false := by cases g <;> simp at hk ⊢
  simp only [hg, Bool.false_eq_true, if_false]
  split
  · rfl
  · rw [List.append_assoc, nth_append_left _ _ k hk]

theorem joinGroups_tail (g : List Bytes) (rest : List (List Bytes)) (k : Nat) :
    nth (joinGroups (g :: rest)) (gOff g + k) = nth (joinGroups rest) k := by
  simp only [joinGroups, gOff]
  cases hg : g.isEmpty
  · simp only [Bool.false_eq_true, if_false]
    split
    · rename_i hr
      have : joinGroups rest = [] := by simpa using hr
      rw [this, nth_beyond _ _ (by omega)]; simp [nth]
    · have e : g.length + 1 + k = (g ++ [[]]).length + k := by simp
      rw [e, nth_append_right]
  · simp

theorem joinGroups_single (x : Bytes) (rest : List (List Bytes)) (h : (joinGroups rest).isEmpty = false) :
    joinGroups ([x] :: rest) = x :: [] :: joinGroups rest := by
  simp [joinGroups, h]

theorem notes_lines : ∀ (ns : List Note),
    (joinGroups (ns.map fun n => [n.line])).length = 2 * ns.length - 1 ∧
    (∀ j, j < ns.length → nth (joinGroups (ns.map fun n => [n.line])) (2 * j) = (ns.getD j ⟨[], 0, .nil⟩).line) ∧
    (∀ j, j + 1 < ns.length → nth (joinGroups (ns.map fun n => [n.line])) (2 * j + 1) = [])
  | [] => ⟨rfl, fun _ h => absurd h (Nat.not_lt_zero _), fun _ h => absurd h (Nat.not_lt_zero _)⟩
  | [n] => ⟨rfl, fun j hj => by obtain rfl : j = 0 := by simpa using hj
                                rfl,
      fun j hj => absurd hj (by simp)⟩
  | n :: m :: ms => by
    obtain ⟨i1, i2, i3⟩ := notes_lines (m :: ms)
    have hne : (joinGroups ((m :: ms).map fun n => [n.line])).isEmpty = false := by
      cases hq : joinGroups ((m :: ms).map fun n => [n.line]) with
      | nil => rw [hq] at i1; exact absurd i1 (by simp only [List.length_nil, List.length_cons]; omega)
      | cons x t => rfl
    rw [List.map_cons, joinGroups_single _ _ hne]
    refine ⟨by simp only [List.length_cons, i1]; omega, fun j hj => ?_, fun j hj => ?_⟩
    · cases j with
      | zero => rfl
      | succ j => exact i2 j (Nat.lt_of_succ_lt_succ hj)
    · cases j with
      | zero => rfl
      | succ j => exact i3 j (Nat.lt_of_succ_lt_succ hj)

theorem emb_of_nth {G : List Bytes} : ∀ (ls : List Bytes) (l : Nat), 1 ≤ l → (∀ k, k < ls.length → nth G (l - 1 + k) = nth ls k) →
    Emb G 1 l 1 ls
  | [], _, _, _ => trivial
  | x :: rest, l, hl, h => by
    refine ⟨fun hx => ?_, emb_of_nth rest (l + 1) (Nat.le_add_left 1 l) (fun k hk => ?_)⟩
    · have h0 := h 0 (by simp)
      simp only [Nat.add_zero, nth] at h0
      have : l - 1 < G.length := nth_ne_lt G _ (by rw [h0]; exact hx)
      exact ⟨hl, by omega, [], by simpa using h0, rfl⟩
    · have := h (k + 1) (by simpa using hk)
      simp only [nth] at this
      have e : l + 1 - 1 + k = l - 1 + (k + 1) := by omega
      rw [e]; exact this

theorem claimF_unfold (lt : List LineEnt) (anc prev : Option Sp) (t : Tree) (ts : Forest) :
    claimCheckF lt anc prev (.cons t ts) =
      if (match prev with
          | some p => t.value.kind.spInOrder && t.sp.sl != 0 && !spOrdered p t.sp
          | none => false) = true then some ⟨"ordered", t.value.kind, t.sp⟩
      else match claimCheckT lt anc t with
        | some f => some f
        | none => claimCheckF lt anc (if (t.value.kind.spInOrder && t.sp.sl != 0) = true then some t.sp else prev) ts := by
  simp only [claimCheckF]; rfl

theorem claimF_append {lt : List LineEnt} {anc : Option Sp} : ∀ (f g : Forest) (prev : Option Sp),
    claimCheckF lt anc prev f = none → (∀ pv, claimCheckF lt anc pv g = none) → claimCheckF lt anc prev (f.append g) = none
  | .nil, g, prev, _, hg => hg prev
  | .cons t ts, g, prev, hf, hg => by
    rw [Forest.append, claimF_unfold]
    rw [claimF_unfold] at hf
    generalize hb : (match prev with
          | some p => t.value.kind.spInOrder && t.sp.sl != 0 && !spOrdered p t.sp
          | none => false) = bad at hf ⊢
    cases bad
    · simp only [Bool.false_eq_true, if_false] at hf ⊢
      cases ht : claimCheckT lt anc t with
      | some f => simp [ht] at hf
      | none =>
        simp only [ht] at hf ⊢
        exact claimF_append ts g _ hf hg
    · simp at hf

theorem sliceF_append {lt : List LineEnt} {src : Bytes} : ∀ (f g : Forest),
    sliceCheckF lt src f = none → sliceCheckF lt src g = none → sliceCheckF lt src (f.append g) = none
  | .nil, g, _, hg => hg
  | .cons t ts, g, hf, hg => by
    simp only [sliceCheckF] at hf
    split at hf
    · cases hf
    · rename_i h1
      simp [Forest.append, sliceCheckF, h1, sliceF_append ts g hf hg]

theorem toForestThenP_eq (tail : Forest) : ∀ (bs : Blks) (l : Nat),
    bs.toForestThenP tail l = (bs.toForestP false l 1 1).append tail
  | .nil, _ => rfl
  | .cons b r, l => by
    simp only [Blks.toForestThenP, Blks.toForestP, Forest.append, Bool.false_eq_true, if_false]
    rw [toForestThenP_eq tail r]

def Note.ph (n : Note) : Bool := n.body.ph && nlFree n.body.src && !n.body.src.isEmpty

section doc
variable (G : List Bytes)

theorem note_line_ne (n : Note) : n.line ≠ [] := by simp [Note.line]

/-- `last`: no footnote definition follows the one on line `L`. -/
theorem note_good (hG : cleanG G = true) (D : Sp) (n : Note) (L : Nat) (last : Bool) (hph : n.ph = true)
    (hL1 : 1 ≤ L) (hline : nth G (L - 1) = n.line) (hD1 : posLe D.sl D.sc L 1 = true)
    (hlast : last = true → posLe L n.line.length D.el D.ec = true)
    (hnl : last = false → nth G L = [] ∧ L + 1 ≤ G.length ∧ posLe (L + 1) 0 D.el D.ec = true) :
    GoodT G (some D) (n.toTreeP L last) := by
  simp only [Note.ph, Bool.and_eq_true, Bool.not_eq_true', List.isEmpty_eq_false_iff] at hph
  obtain ⟨⟨hbph, hbnl⟩, hbne⟩ := hph
  have hLle : L ≤ G.length := by
    have := nth_ne_lt G _ (by rw [hline]; exact note_line_ne n)
    omega
  have hreg : Reg G 0 (L, n.name.length + 6) n.body.src := by
    have := reg_of_line (G := G) (c0 := 0) L hL1 hLle n.body.src ([0x5B, 0x5E] ++ n.name ++ [0x5D, 0x3A, 0x20]) []
      (by rw [hline, List.append_nil]; rfl) hbnl
    have e : ([0x5B, 0x5E] ++ n.name ++ [0x5D, 0x3A, 0x20]).length + 1 = n.name.length + 6 := by simp
    rw [e] at this
    exact this
  have hpos := List.length_pos_iff.mpr hbne
  have hend : adv 0 (L, n.name.length + 6) n.body.src.dropLast = (L, n.name.length + 5 + n.body.src.length) := by
    rw [adv_nlFree 0 _ _ (nlFree_dropLast _ hbnl), List.length_dropLast]
    congr 1; omega
  have hpara : ∀ S : Sp, posLe S.sl S.sc L (n.name.length + 6) = true →
      posLe L (n.name.length + 5 + n.body.src.length) S.el S.ec = true →
      GoodF G (some S) none (.cons (.node .paragraph (spanOf 0 (L, n.name.length + 6) n.body.src) (n.body.toForestP 0 (L, n.name.length + 6))) .nil) := by
    intro S h1 h2
    have hk := kids_good G hG n.body 0 (L, n.name.length + 6) (spanOf 0 (L, n.name.length + 6) n.body.src) hreg hbph
      (posLe_refl _ _) (fun _ => posLe_refl _ _)
    have hn : spNested S (spanOf 0 (L, n.name.length + 6) n.body.src) = true :=
      spNested_of h1 (by simp only [spanOf, hend]; exact h2)
    exact goodF_node G _ _ _ _ _ none rfl (span_sl_ne G hreg) (fun Q h => by cases h)
      (goodT_node G hG _ _ S _ rfl (valid_of_reg hreg hbne) hn (fun s _ => ⟨rfl, rfl⟩) hk) ⟨rfl, rfl⟩
  have hlen : n.line.length = n.name.length + 5 + n.body.src.length := by simp [Note.line]; omega
  simp only [Note.toTreeP]
  cases last
  · obtain ⟨e1, e2, e3⟩ := hnl rfl
    simp only [Bool.false_eq_true, if_false]
    have hp := hpara { sl := L, sc := 1, el := L + 1, ec := 0 } (by simp [posLe]) (by simp [posLe])
    have hval : Valid G { sl := L, sc := 1, el := L + 1, ec := 0 } :=
      ⟨hL1, by simp, e2, by simp, by simp, Or.inr ⟨rfl, by simp only [lenAt, Nat.add_sub_cancel, e1, List.length_nil]⟩,
        Or.inl (by simp)⟩
    exact goodT_node G hG _ _ D _ rfl hval (spNested_of hD1 e3) (fun s _ => ⟨rfl, rfl⟩) hp
  · simp only [if_true]
    obtain ⟨hval, _, _⟩ := span_single G hG n.line L 1 1 ⟨fun _ => ⟨hL1, hLle, [], by simpa using hline, rfl⟩, trivial⟩
      (note_line_ne n)
    have hp := hpara (spanLines L 1 [n.line]) (by simp [spanLines, posLe]) (by simp [spanLines, posLe, hlen])
    exact goodT_node G hG _ _ D _ rfl hval (spNested_of hD1 (by simpa [spanLines] using hlast rfl)) (fun s _ => ⟨rfl, rfl⟩) hp

theorem notes_good (D : Sp) (order : List Nat) (l0 nw : Nat) : ∀ (notes : List Note) (i : Nat),
    (∀ k (_ : k < notes.length), GoodT G (some D) ((notes.getD k ⟨[], 0, .nil⟩).toTreeP (l0 + 2 * order.idxOf (i + k)) (order.idxOf (i + k) + 1 == nw))) →
    (∀ pv, claimCheckF (lineEnts (joinLines G)) (some D) pv (notesForestP order l0 nw i notes) = none) ∧
      sliceCheckF (lineEnts (joinLines G)) (joinLines G) (notesForestP order l0 nw i notes) = none
  | [], _, _ => ⟨fun _ => rfl, rfl⟩
  | n :: r, i, h => by
    have h0 := h 0 (by simp)
    simp only [Nat.add_zero, List.getD_cons_zero] at h0
    obtain ⟨i1, i2⟩ := notes_good D order l0 nw r (i + 1) (fun k hk => by
      have := h (k + 1) (by simpa using hk)
      simp only [List.getD_cons_succ] at this
      have e : i + (k + 1) = i + 1 + k := by omega
      rw [e] at this
      exact this)
    simp only [notesForestP]
    refine ⟨fun pv => ?_, sliceF_cons _ _ _ _ h0.2 i2⟩
    refine claimF_cons_skip _ _ _ _ pv ?_ h0.1 (i1 pv)
    simp [Note.toTreeP, Tree.value, NodeValue.kind, Kind.spInOrder]

end doc

end Comrak.Canon
