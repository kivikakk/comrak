/-
The tag stack with the table-section flags of the oracle `balancedBytes`, on abstract tag events.
`runO` is `balStep`'s stack discipline (`<thead>` / `<tbody>` only directly under `<table>`, each at
most once per table); `RefO a b` says that the event list `a` does on every flagged stack what the
(shorter) list `b` does, whenever `b` succeeds.  Framing, and the two simulations between `runO` and
the plain name stack `run`: `runO` follows `run` on event lists without `<thead>`/`<tbody>` start
tags, and `run` follows `runO` always.
-/
import Comrak.Lemmas.Html
namespace Comrak
open Bytes

def mkO (n : Bytes) : Open := ⟨n, false, false⟩

@[simp] theorem mkO_name (n : Bytes) : (mkO n).name = n := rfl

def isTS (n : Bytes) : Bool := n == S.t_thead || n == S.t_tbody

/-- `balStep` on tag events: the stack part (no void / footnote-section bookkeeping). -/
def stepO (stack : List Open) : Ev → Option (List Open)
  | .op n =>
    if isTS n then
      match stack with
      | top :: rest =>
        if top.name != S.t_table then none
        else if n == S.t_thead then
          (if top.thead then none else some (⟨n, false, false⟩ :: { top with thead := true } :: rest))
        else
          (if top.tbody then none else some (⟨n, false, false⟩ :: { top with tbody := true } :: rest))
      | [] => none
    else some (⟨n, false, false⟩ :: stack)
  | .cl n =>
    match stack with
    | [] => none
    | top :: rest => if top.name == n then some rest else none

def runO : List Open → List Ev → Option (List Open)
  | st, [] => some st
  | st, e :: r => (stepO st e).bind fun st' => runO st' r

@[simp] theorem runO_nil (S : List Open) : runO S [] = some S := rfl
theorem runO_cons (S : List Open) (e : Ev) (r : List Ev) :
    runO S (e :: r) = (stepO S e).bind fun S' => runO S' r := rfl

theorem runO_append (S : List Open) (a b : List Ev) :
    runO S (a ++ b) = (runO S a).bind fun S' => runO S' b := by
  induction a generalizing S with
  | nil => simp
  | cons e r ih =>
    simp only [List.cons_append, runO_cons]
    cases stepO S e with
    | none => simp
    | some S1 => simp [ih]

theorem runO_append_some {S S' : List Open} {a : List Ev} (b : List Ev) (h : runO S a = some S') :
    runO S (a ++ b) = runO S' b := by
  rw [runO_append, h]; rfl

theorem runO3 {S S1 S2 S3 : List Open} {a b c : List Ev}
    (h1 : runO S a = some S1) (h2 : runO S1 b = some S2) (h3 : runO S2 c = some S3) :
    runO S (a ++ b ++ c) = some S3 := by
  rw [List.append_assoc, runO_append_some _ h1, runO_append_some _ h2, h3]

theorem runO_append_inv {S Q : List Open} {a b : List Ev} (h : runO S (a ++ b) = some Q) :
    ∃ M, runO S a = some M ∧ runO M b = some Q := by
  rw [runO_append] at h
  cases hM : runO S a with
  | none => rw [hM] at h; simp at h
  | some M => rw [hM] at h; exact ⟨M, rfl, h⟩

theorem stepO_frame {P Q : List Open} {e : Ev} (R : List Open) (h : stepO P e = some Q) :
    stepO (P ++ R) e = some (Q ++ R) := by
  cases e with
  | op n =>
    simp only [stepO] at h ⊢
    by_cases hts : isTS n = true
    · simp only [hts, if_true] at h ⊢
      cases P with
      | nil => simp at h
      | cons top rest =>
        simp only [List.cons_append] at h ⊢
        repeat' (split at h)
        all_goals (first | (simp at h; done) | skip)
        all_goals (simp only [Option.some.injEq] at h; subst h; simp_all)
    · simp only [hts] at h ⊢
      simp only [Bool.false_eq_true, if_false, Option.some.injEq] at h ⊢
      subst h; rfl
  | cl n =>
    simp only [stepO] at h ⊢
    cases P with
    | nil => simp at h
    | cons top rest =>
      simp only [List.cons_append] at h ⊢
      split at h
      · rename_i ht
        simp only [Option.some.injEq] at h
        simp [ht, h]
      · simp at h

theorem runO_frame {P Q : List Open} {evs : List Ev} (R : List Open) (h : runO P evs = some Q) :
    runO (P ++ R) evs = some (Q ++ R) := by
  induction evs generalizing P with
  | nil => simp only [runO_nil, Option.some.injEq] at h; subst h; rfl
  | cons e r ih =>
    simp only [runO_cons] at h ⊢
    cases hs : stepO P e with
    | none => rw [hs] at h; simp at h
    | some P1 =>
      rw [hs] at h
      rw [stepO_frame R hs]
      exact ih h

def noTSe : Ev → Bool
  | .op n => !isTS n
  | .cl _ => true

theorem runO_of_run_fresh (evs : List Ev) (h : evs.all noTSe = true) (p x : List Bytes)
    (hr : run p evs = some x) : runO (p.map mkO) evs = some (x.map mkO) := by
  induction evs generalizing p with
  | nil => simp only [run_nil, Option.some.injEq] at hr; subst hr; rfl
  | cons e r ih =>
    simp only [List.all_cons, Bool.and_eq_true] at h
    cases e with
    | op n =>
      have hn : isTS n = false := by simpa [noTSe] using h.1
      simp only [run_op] at hr
      simp only [runO_cons, stepO, hn, Bool.false_eq_true, if_false, Option.bind_some]
      exact ih h.2 (n :: p) hr
    | cl n =>
      cases p with
      | nil => simp [run] at hr
      | cons top st =>
        simp only [run] at hr
        by_cases ht : top = n
        · subst ht
          simp only [if_true] at hr
          simp only [runO_cons, stepO, List.map_cons, mkO_name, beq_self_eq_true, if_true, Option.bind_some]
          exact ih h.2 st hr
        · simp [ht] at hr

theorem runO_of_run_names (evs : List Ev) (h : evs.all noTSe = true) (P : List Open) (x : List Bytes)
    (hr : run (P.map Open.name) evs = some x) : ∃ Q, runO P evs = some Q ∧ Q.map Open.name = x := by
  induction evs generalizing P with
  | nil => simp only [run_nil, Option.some.injEq] at hr; exact ⟨P, rfl, hr⟩
  | cons e r ih =>
    simp only [List.all_cons, Bool.and_eq_true] at h
    cases e with
    | op n =>
      have hn : isTS n = false := by simpa [noTSe] using h.1
      simp only [run_op] at hr
      simp only [runO_cons, stepO, hn, Bool.false_eq_true, if_false, Option.bind_some]
      exact ih h.2 (⟨n, false, false⟩ :: P) (by simpa using hr)
    | cl n =>
      cases P with
      | nil => simp [run] at hr
      | cons top st =>
        simp only [List.map_cons, run] at hr
        by_cases ht : top.name = n
        · simp only [ht, if_true] at hr
          simp only [runO_cons, stepO, ht, beq_self_eq_true, if_true, Option.bind_some]
          exact ih h.2 st hr
        · simp [ht] at hr

theorem runO_opens (evs : List Ev) (h : evs.all noTSe = true) (x : List Bytes) (hr : run [] evs = some x)
    (S : List Open) : runO S evs = some (x.map mkO ++ S) := by
  have := runO_frame S (runO_of_run_fresh evs h [] x hr)
  simpa using this

theorem runO_closes (evs : List Ev) (h : evs.all noTSe = true) (P : List Open)
    (hr : run (P.map Open.name) evs = some []) (S : List Open) : runO (P ++ S) evs = some S := by
  obtain ⟨Q, h1, h2⟩ := runO_of_run_names evs h P [] hr
  have hQ : Q = [] := by simpa using h2
  subst hQ
  have := runO_frame S h1
  simpa using this

theorem run_of_runO {P Q : List Open} {evs : List Ev} (h : runO P evs = some Q) :
    run (P.map Open.name) evs = some (Q.map Open.name) := by
  induction evs generalizing P with
  | nil => simp only [runO_nil, Option.some.injEq] at h; subst h; rfl
  | cons e r ih =>
    rw [runO_cons] at h
    cases hs : stepO P e with
    | none => simp [hs] at h
    | some P1 =>
      rw [hs] at h
      have hstep : run (P.map Open.name) (e :: r) = run (P1.map Open.name) r := by
        cases e with
        | op n =>
          have : P1.map Open.name = n :: P.map Open.name := by
            simp only [stepO] at hs
            repeat' (split at hs)
            all_goals first | (cases hs; rfl) | cases hs
          rw [run_op, this]
        | cl n =>
          cases P with
          | nil => simp [stepO] at hs
          | cons top rest =>
            simp only [stepO] at hs
            split at hs
            · rename_i ht
              simp only [Option.some.injEq] at hs; subst hs
              simp only [beq_iff_eq] at ht
              simp [ht]
            · cases hs
      rw [hstep]; exact ih h

def RefO (a b : List Ev) : Prop := ∀ S Q, runO S b = some Q → runO S a = some Q

theorem RefO.refl (a : List Ev) : RefO a a := fun _ _ h => h

theorem RefO.append {a a' b b' : List Ev} (h1 : RefO a a') (h2 : RefO b b') : RefO (a ++ b) (a' ++ b') := by
  intro S Q h
  obtain ⟨M, m1, m2⟩ := runO_append_inv h
  rw [runO_append_some _ (h1 S M m1)]
  exact h2 M Q m2

theorem RefO.nil_keeps {a : List Ev} (h : RefO a []) (S : List Open) : runO S a = some S := h S S rfl

theorem RefO.of_keeps {a : List Ev} (h : ∀ S, runO S a = some S) : RefO a [] := by
  intro S Q hq
  simp only [runO_nil, Option.some.injEq] at hq
  subst hq; exact h S

def noTS : Tok → Bool
  | .op n _ => !isTS n
  | _ => true

theorem events_noTS (ts : List Tok) (h : ts.all noTS = true) : (events ts).all noTSe = true := by
  induction ts with
  | nil => rfl
  | cons t r ih =>
    simp only [List.all_cons, Bool.and_eq_true] at h
    rw [events_cons, List.all_append, ih h.2, Bool.and_true]
    cases t <;> simp_all [Tok.events, noTS, noTSe]

@[simp] theorem isTS_t_img : isTS S.t_img = false := by decide
@[simp] theorem isTS_t_br : isTS S.t_br = false := by decide
@[simp] theorem isTS_t_hr : isTS S.t_hr = false := by decide
@[simp] theorem isTS_t_input : isTS S.t_input = false := by decide
@[simp] theorem isTS_t_ol : isTS S.t_ol = false := by decide
@[simp] theorem isTS_t_section : isTS S.t_section = false := by decide
@[simp] theorem isTS_t_table : isTS S.t_table = false := by decide
@[simp] theorem isTS_t_thead : isTS S.t_thead = true := by decide
@[simp] theorem isTS_t_tbody : isTS S.t_tbody = true := by decide
@[simp] theorem isTS_t_tr : isTS S.t_tr = false := by decide

theorem stepO_op_plain (K : List Open) (n : Bytes) (h : isTS n = false) : stepO K (.op n) = some (mkO n :: K) := by
  simp [stepO, h, mkO]

theorem stepO_thead (tb : Bool) (R : List Open) :
    stepO (⟨S.t_table, false, tb⟩ :: R) (.op S.t_thead) = some (mkO S.t_thead :: ⟨S.t_table, true, tb⟩ :: R) := by
  simp [stepO, mkO]

theorem stepO_tbody (th : Bool) (R : List Open) :
    stepO (⟨S.t_table, th, false⟩ :: R) (.op S.t_tbody) = some (mkO S.t_tbody :: ⟨S.t_table, th, true⟩ :: R) := by
  have : (S.t_tbody == S.t_thead) = false := by decide
  simp [stepO, mkO, this]

theorem stepO_cl (n : Bytes) (th tb : Bool) (R : List Open) : stepO (⟨n, th, tb⟩ :: R) (.cl n) = some R := by
  simp [stepO]

theorem runO_cl_mkO (n : Bytes) (M : List Open) (r : List Ev) : runO (mkO n :: M) (.cl n :: r) = runO M r := by
  simp [runO_cons, stepO, mkO]

theorem map_name_mkO (l : List Bytes) : (l.map mkO).map Open.name = l := by
  induction l with
  | nil => rfl
  | cons a r ih => simp [ih]

end Comrak
