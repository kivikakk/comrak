/-
What the XML formatter writes, token by token: its private escaper is `html::escape`, comrak's
own words and decimals contain none of `& < > "` (so they are their own escape), every name is
legal, and a property of single tokens lifts to whole renderings by one induction
(`renderXmlT_all`); balance is the same induction over `xrun`.
-/
import Comrak.XmlLang
import Comrak.Lemmas.Escape
namespace Comrak
open Bytes

/-- The two sets list the same four bytes in a different order. -/
theorem xmlUnsafe_eq_htmlUnsafe : ∀ b : UInt8, xmlUnsafe b = htmlUnsafe b := by
  intro b
  simp only [xmlUnsafe, htmlUnsafe]
  ac_rfl

theorem xmlEsc_eq_escByte (b : UInt8) (h : xmlUnsafe b = true) : xmlEsc b = escByte b := by
  simp only [xmlUnsafe, Bool.or_eq_true, beq_iff_eq] at h
  rcases h with ((rfl | rfl) | rfl) | rfl <;> rfl

theorem escByte_of_xmlSafe (b : UInt8) (h : xmlUnsafe b = false) : escByte b = [b] :=
  escByte_safe b (xmlUnsafe_eq_htmlUnsafe b ▸ h)

theorem xmlEscapeLoop_eq (p bs : Bytes) : xmlEscapeLoop p bs = p ++ escape bs := by
  induction bs generalizing p with
  | nil => simp [xmlEscapeLoop, escape]
  | cons b r ih =>
    simp only [xmlEscapeLoop, escape_cons]
    split
    · rename_i h; rw [ih, xmlEsc_eq_escByte b h]; simp
    · rename_i h; rw [ih, escByte_of_xmlSafe b (by simpa using h)]; simp

theorem xmlEscape_eq (bs : Bytes) : xmlEscape bs = escape bs := by
  simpa [xmlEscape] using xmlEscapeLoop_eq [] bs

def safeB (v : Bytes) : Bool := v.all fun b => !xmlUnsafe b

theorem safeB_append (x y : Bytes) : safeB (x ++ y) = (safeB x && safeB y) := by
  simp [safeB, List.all_append]

theorem escape_of_safeB (v : Bytes) (h : safeB v = true) : escape v = v := by
  induction v with
  | nil => rfl
  | cons b r ih =>
    simp only [safeB, List.all_cons, Bool.and_eq_true, Bool.not_eq_true'] at h
    rw [escape_cons, escByte_of_xmlSafe b h.1, ih (by simpa [safeB] using h.2)]; rfl

theorem digit_safe (b : UInt8) (h : isAsciiDigit b = true) : xmlUnsafe b = false := by
  simp only [xmlUnsafe, Bool.or_eq_false_iff, beq_eq_false_iff_ne]
  refine ⟨⟨⟨?_, ?_⟩, ?_⟩, ?_⟩ <;> (rintro rfl; exact absurd h (by decide))

/-- The formatter's decimal printer is the one of Comrak/Bytes.lean (`n / 10 = 0` for `n < 10`). -/
theorem natDec_eq (n : Nat) : natDec n = ofNatDec n := by
  suffices ∀ fuel n acc, natDecAux fuel n acc = ofNatDecAux fuel n acc from this _ _ _
  intro fuel
  induction fuel with
  | zero => intros; rfl
  | succ f ih =>
    intro n acc
    simp only [natDecAux, ofNatDecAux, ih, Nat.div_eq_zero_iff_lt (by decide : 0 < 10)]

@[simp] theorem safe_natDec (n : Nat) : safeB (natDec n) = true := by
  rw [natDec_eq]
  exact List.all_eq_true.mpr fun b hb => by simp [digit_safe b (ofNatDec_digits n b hb)]

@[simp] theorem safe_xmlSpBytes (sp : Sp) : safeB (xmlSpBytes sp) = true := by
  have h1 : safeB [0x3A] = true := by decide
  have h2 : safeB [0x2D] = true := by decide
  simp only [xmlSpBytes, safeB_append, safe_natDec, h1, h2, Bool.and_self]

@[simp] theorem safe_v_xmlns : safeB XS.v_xmlns = true := by decide
@[simp] theorem safe_v_preserve : safeB XS.v_preserve = true := by decide
@[simp] theorem safe_v_bullet : safeB XS.v_bullet = true := by decide
@[simp] theorem safe_v_ordered : safeB XS.v_ordered = true := by decide
@[simp] theorem safe_v_period : safeB XS.v_period = true := by decide
@[simp] theorem safe_v_paren : safeB XS.v_paren = true := by decide
@[simp] theorem safe_v_true : safeB XS.v_true = true := by decide
@[simp] theorem safe_v_false : safeB XS.v_false = true := by decide
@[simp] theorem safe_v_display : safeB XS.v_display = true := by decide
@[simp] theorem safe_v_inline : safeB XS.v_inline = true := by decide
@[simp] theorem safe_v_left : safeB XS.v_left = true := by decide
@[simp] theorem safe_v_center : safeB XS.v_center = true := by decide
@[simp] theorem safe_v_right : safeB XS.v_right = true := by decide
@[simp] theorem safe_v_note : safeB XS.v_note = true := by decide
@[simp] theorem safe_v_tip : safeB XS.v_tip = true := by decide
@[simp] theorem safe_v_important : safeB XS.v_important = true := by decide
@[simp] theorem safe_v_warning : safeB XS.v_warning = true := by decide
@[simp] theorem safe_v_caution : safeB XS.v_caution = true := by decide
@[simp] theorem safe_v_math : safeB XS.v_math = true := by decide
@[simp] theorem legal_a_xmlns : xmlLegalName XS.a_xmlns = true := by decide
@[simp] theorem legal_a_xml_space : xmlLegalName XS.a_xml_space = true := by decide
@[simp] theorem legal_a_sourcepos : xmlLegalName XS.a_sourcepos = true := by decide
@[simp] theorem legal_a_type : xmlLegalName XS.a_type = true := by decide
@[simp] theorem legal_a_start : xmlLegalName XS.a_start = true := by decide
@[simp] theorem legal_a_delim : xmlLegalName XS.a_delim = true := by decide
@[simp] theorem legal_a_tasklist : xmlLegalName XS.a_tasklist = true := by decide
@[simp] theorem legal_a_tight : xmlLegalName XS.a_tight = true := by decide
@[simp] theorem legal_a_level : xmlLegalName XS.a_level = true := by decide
@[simp] theorem legal_a_info : xmlLegalName XS.a_info = true := by decide
@[simp] theorem legal_a_math_style : xmlLegalName XS.a_math_style = true := by decide
@[simp] theorem legal_a_destination : xmlLegalName XS.a_destination = true := by decide
@[simp] theorem legal_a_title : xmlLegalName XS.a_title = true := by decide
@[simp] theorem legal_a_align : xmlLegalName XS.a_align = true := by decide
@[simp] theorem legal_a_label : xmlLegalName XS.a_label = true := by decide
@[simp] theorem legal_a_completed : xmlLegalName XS.a_completed = true := by decide
@[simp] theorem legal_a_multiline : xmlLegalName XS.a_multiline = true := by decide
@[simp] theorem legal_a_tag : xmlLegalName XS.a_tag = true := by decide

@[simp] theorem safe_boolBytes (b : Bool) : safeB (boolBytes b) = true := by cases b <;> simp [boolBytes]
@[simp] theorem safe_alertXmlType (a : AlertType) : safeB (alertXmlType a) = true := by
  cases a <;> simp [alertXmlType]

/-- An attribute value is either document data sent through `escape`, or comrak's own text
    free of `& < > "`. -/
def valOk : XVal → Bool
  | .esc _ => true
  | .lit v => safeB v

theorem xmlName_legal (v : NodeValue) : xmlLegalName (xmlName v) = true := by
  cases v <;> dsimp only [xmlName] <;> decide

theorem spell_indent (tok : XTok) : ∃ rest, tok.spell = indentBytes tok.ind ++ 0x3C :: rest := by
  cases tok <;>
    exact ⟨_, by simp only [XTok.spell, XTok.ind, List.append_assoc, List.cons_append, List.nil_append]; rfl⟩

def NodeOk (o : XmlOpts) (P : XTok → Bool) (q : NodeValue → Bool) : Prop :=
  ∀ (ind : Nat) (cx : XCtx) (v : NodeValue) (sp : Sp) (l : Bytes), q v = true →
    P (.opn ind (xmlName v) (xmlAttrs o cx v sp)) = true ∧
    P (.leaf ind (xmlName v) (xmlAttrs o cx v sp) l) = true ∧
    P (.empty ind (xmlName v) (xmlAttrs o cx v sp)) = true ∧
    P (.close ind (xmlName v)) = true

mutual
theorem renderXmlT_all (o : XmlOpts) (P : XTok → Bool) (q : NodeValue → Bool) (h : NodeOk o P q) :
    ∀ (t : Tree) (ind : Nat) (cx : XCtx), t.allV q = true → (renderXmlT o ind cx t).all P = true
  | .node v sp cs, ind, cx, hq => by
    simp only [Tree.allV, Bool.and_eq_true] at hq
    have hF := renderXmlF_all o P q h cs (ind + 2) (some v) cx.parent 0 hq.2
    simp only [renderXmlT]
    split
    · rename_i l _
      obtain ⟨_, h2, _, h4⟩ := h ind cx v sp l hq.1
      split <;> simp [List.all_append, hF, h2, h4]
    · obtain ⟨h1, _, h3, h4⟩ := h ind cx v sp [] hq.1
      split <;> simp [List.all_append, hF, h1, h3, h4]
theorem renderXmlF_all (o : XmlOpts) (P : XTok → Bool) (q : NodeValue → Bool) (h : NodeOk o P q) :
    ∀ (f : Forest) (ind : Nat) (parent grand : Option NodeValue) (idx : Nat),
      f.allV q = true → (renderXmlF o ind parent grand idx f).all P = true
  | .nil, _, _, _, _, _ => by simp [renderXmlF]
  | .cons t ts, ind, parent, grand, idx, hq => by
    simp only [Forest.allV, Bool.and_eq_true] at hq
    simp only [renderXmlF, List.all_append, Bool.and_eq_true]
    exact ⟨renderXmlT_all o P q h t ind _ hq.1, renderXmlF_all o P q h ts ind parent grand (idx + 1) hq.2⟩
end

mutual
theorem Tree.allV_true : ∀ t : Tree, t.allV (fun _ => true) = true
  | .node _ _ cs => by simp [Tree.allV, Forest.allV_true cs]
theorem Forest.allV_true : ∀ f : Forest, f.allV (fun _ => true) = true
  | .nil => rfl
  | .cons t ts => by simp [Forest.allV, Tree.allV_true t, Forest.allV_true ts]
end

theorem xrun_append (s : List Bytes) (a b : List XTok) :
    xrun s (a ++ b) = (xrun s a).bind fun s' => xrun s' b := by
  induction a generalizing s with
  | nil => simp [xrun]
  | cons t r ih =>
    cases t with
    | opn i n as => simp [xrun, ih]
    | leaf i n as l => simp [xrun, ih]
    | empty i n as => simp [xrun, ih]
    | close i n =>
      cases s with
      | nil => simp [xrun]
      | cons top st =>
        simp only [List.cons_append, xrun]
        split <;> simp [ih]

theorem xrun_append_some {s s' : List Bytes} {a : List XTok} (b : List XTok) (h : xrun s a = some s') :
    xrun s (a ++ b) = xrun s' b := by
  rw [xrun_append, h]; rfl

mutual
theorem xrun_renderXmlT (o : XmlOpts) :
    ∀ (t : Tree) (ind : Nat) (cx : XCtx) (s : List Bytes), litLeafT t = true →
      xrun s (renderXmlT o ind cx t) = some s
  | .node v sp cs, ind, cx, s, h => by
    simp only [litLeafT, Bool.and_eq_true, Bool.or_eq_true] at h
    have hF := fun s => xrun_renderXmlF o cs (ind + 2) (some v) cx.parent 0 s h.2
    simp only [renderXmlT]
    split
    · rename_i l hl
      have hnil : cs.isNil = true := by
        rcases h.1 with h1 | h1
        · simp [hl] at h1
        · exact h1
      simp [hnil, xrun]
    · split
      · simp [xrun]
      · simp only [xrun]
        rw [xrun_append_some _ (hF _)]
        simp [xrun]
theorem xrun_renderXmlF (o : XmlOpts) :
    ∀ (f : Forest) (ind : Nat) (parent grand : Option NodeValue) (idx : Nat) (s : List Bytes),
      litLeafF f = true → xrun s (renderXmlF o ind parent grand idx f) = some s
  | .nil, _, _, _, _, s, _ => by simp [renderXmlF, xrun]
  | .cons t ts, ind, parent, grand, idx, s, h => by
    simp only [litLeafF, Bool.and_eq_true] at h
    simp only [renderXmlF]
    rw [xrun_append_some _ (xrun_renderXmlT o t ind _ s h.1)]
    exact xrun_renderXmlF o ts ind parent grand (idx + 1) s h.2
end

end Comrak
