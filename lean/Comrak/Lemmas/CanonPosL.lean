/-
Positions of canonical documents, layer L: from `Doc.ok` to the two hypotheses of `positions_doc`
(`cleanG d.glines`, `d.ph`), and the theorem for canonical documents.
-/
import Comrak.Lemmas.CanonPosK
namespace Comrak.Canon
open Comrak Bytes

theorem countP_lt_succ (n : Nat) : ∀ (L : List Nat),
    L.countP (fun x => decide (x < n + 1)) = L.countP (fun x => decide (x < n)) + L.count n
  | [] => rfl
  | a :: L => by
    simp only [List.countP_cons, List.count_cons, countP_lt_succ n L, beq_iff_eq, decide_eq_true_eq]
    by_cases h1 : a < n
    · have h2 : a < n + 1 := by omega
      have h3 : ¬ a = n := by omega
      simp [h1, h2, h3]; omega
    · by_cases h3 : a = n
      · subst h3; simp; omega
      · have h2 : ¬ a < n + 1 := by omega
        simp [h1, h2, h3]

theorem countP_ge : ∀ (n : Nat) (L : List Nat), (∀ i, i < n → i ∈ L) → n ≤ L.countP (fun x => decide (x < n))
  | 0, _, _ => Nat.zero_le _
  | n + 1, L, h => by
    have ih := countP_ge n L (fun i hi => h i (by omega))
    have hn : 0 < L.count n := List.count_pos_iff.mpr (h n (by omega))
    rw [countP_lt_succ]; omega

/-- A list of length `n` that holds every `i < n` holds nothing else (count its entries below `n`): the
    writer's order of the footnote definitions names valid definitions. -/
theorem order_valid (order : List Nat) (n : Nat) (hl : order.length = n) (hp : ∀ i, i < n → i ∈ order) :
    order.all (fun j => decide (j < n)) = true := by
  have h1 := countP_ge n order hp
  have h2 := List.countP_le_length (p := fun x => decide (x < n)) (l := order)
  have h3 : order.countP (fun x => decide (x < n)) = order.length := by omega
  exact List.all_eq_true.mpr (List.countP_eq_length.mp h3)

def RefDef.plain (r : RefDef) : Bool := plainB r.line

theorem refdef_plain (r : RefDef) (h1 : labelOk r.label = true) (h2 : destOk r.url r.angle = true) (h3 : titleOk r.title = true) :
    r.plain = true := by
  refine markup_plain _ ?_
  simp only [RefDef.line, List.all_append, label_markup _ h1, dest_markup _ _ h2, title_markup _ h3, Bool.and_true]
  rfl

mutual
theorem inl_defs_plain : ∀ (i : Inl) (a b br : Bool) (p n : UInt8) (f l : Bool) (pc : Nat),
    i.wf a b br p n f l pc = true → i.defs.all RefDef.plain = true
  | .text _ | .code .. | .autolink .. | .hard _ | .soft | .fnref .. => fun _ _ _ _ _ _ _ _ _ => rfl
  | .emph _ cs | .strong _ cs | .strike cs | .link _ _ _ .inline cs | .image _ _ _ cs => fun _ _ br _ _ _ _ _ h =>
    have ⟨_, _, a', b', hk⟩ := Inl.wf_frame _ rfl h
    inls_defs_plain cs a' b' br _ _ true 0 hk
  | .link url title angle (.ref label dl bf) cs => fun a b br _ _ _ _ _ h => by
    simp only [Inl.wf, Bool.and_eq_true] at h
    have hdl := h.1.1.1.1.1.1.1.2
    have hdest := h.1.1.2
    have htitle := h.1.2
    have ih := inls_defs_plain cs true true br _ _ true 0 h.2
    simp only [Inl.defs, List.all_cons, Bool.and_eq_true]
    exact ⟨refdef_plain _ hdl hdest htitle, ih⟩
theorem inls_defs_plain : ∀ (is : Inls) (a b br : Bool) (p af : UInt8) (f : Bool) (pc : Nat),
    is.wf a b br p af f pc = true → is.defs.all RefDef.plain = true
  | .nil => fun _ _ _ _ _ _ _ _ => rfl
  | .cons i r => fun a b br p af f pc h => by
    simp only [Inls.wf, Bool.and_eq_true] at h
    simp only [Inls.defs, List.all_append, Bool.and_eq_true]
    exact ⟨inl_defs_plain i a b br p _ f _ pc h.1.2, inls_defs_plain r a b br _ af false _ h.2⟩
end

theorem cells_defs_plain (cells : List Inls) (h : cells.all cellWf = true) : (cells.flatMap Inls.defs).all RefDef.plain = true := by
  simp only [List.all_flatMap, List.all_eq_true] at h ⊢
  intro c hc
  have := h c hc
  simp only [cellWf, Bool.and_eq_true] at this
  exact List.all_eq_true.mp (inls_defs_plain c false false false 0x20 0x20 true 0 this.1)

mutual
theorem blk_defs_plain : ∀ (b : Blk) (tight : Bool) (bullet : UInt8) (idx : Nat) (prev : Prev),
    b.wf tight bullet idx prev = true → b.defs.all RefDef.plain = true
  | .para is | .setext _ _ is => fun _ _ _ _ h => by
    simp only [Blk.wf, Bool.and_eq_true] at h
    simpa [Blk.defs] using inls_defs_plain is false false true 0x0A 0x0A true 0 h.2
  | .heading lv is => fun _ _ _ _ h => by
    simp only [Blk.wf, Bool.and_eq_true] at h
    simpa [Blk.defs] using inls_defs_plain is false false false 0x20 0x0A true 0 h.2
  | .hr .. | .fence .. | .icode _ | .htmlb _ => fun _ _ _ _ _ => rfl
  | .quote bs => fun _ _ _ _ h => by
    simp only [Blk.wf, Bool.and_eq_true] at h
    simpa [Blk.defs] using blks_defs_plain bs false 0 0 .none h.2
  | .list m items => fun _ _ _ _ h => by
    simp only [Blk.wf, Bool.and_eq_true] at h
    simpa [Blk.defs] using items_defs_plain items m h.2
  | .table al hd rows => fun _ _ _ _ h => by
    simp only [Blk.wf, Bool.and_eq_true] at h
    simp only [Blk.defs, List.all_append, Bool.and_eq_true]
    refine ⟨cells_defs_plain hd h.1.2, ?_⟩
    simp only [List.all_flatMap, List.all_eq_true]
    intro r hr c hc x hx
    have := List.all_eq_true.mp (cells_defs_plain r (List.all_eq_true.mp h.2 r hr)) x
      (List.mem_flatMap.mpr ⟨c, hc, hx⟩)
    exact this
theorem blks_defs_plain : ∀ (bs : Blks) (tight : Bool) (bullet : UInt8) (idx : Nat) (prev : Prev),
    bs.wf tight bullet idx prev = true → bs.defs.all RefDef.plain = true
  | .nil => fun _ _ _ _ _ => rfl
  | .cons b r => fun tight bullet idx prev h => by
    simp only [Blks.wf, Bool.and_eq_true] at h
    simp only [Blks.defs, List.all_append, Bool.and_eq_true]
    exact ⟨blk_defs_plain b tight bullet idx prev h.1.1, blks_defs_plain r tight bullet (idx + 1) _ h.2⟩
theorem items_defs_plain : ∀ (items : Items) (m : Marker), items.wf m = true → items.defs.all RefDef.plain = true
  | .nil => fun _ _ => rfl
  | .cons t bs r => fun m h => by
    simp only [Items.wf, Bool.and_eq_true] at h
    simp only [Items.defs, List.all_append, Bool.and_eq_true]
    exact ⟨blks_defs_plain bs m.tight _ 0 .none h.1.2, items_defs_plain r m h.2⟩
end

theorem joinGroups_plain : ∀ (gs : List (List Bytes)), gs.all allPlain = true → allPlain (joinGroups gs) = true
  | [], _ => rfl
  | g :: rest, h => by
    simp only [List.all_cons, Bool.and_eq_true] at h
    have ih := joinGroups_plain rest h.2
    simp only [joinGroups]
    split
    · exact ih
    · split
      · exact h.1
      · simp only [allPlain_append, h.1, ih, Bool.and_true, Bool.true_and]; rfl

theorem note_facts (n : Note) (h : n.wf = true) : n.ph = true ∧ plainB n.line = true := by
  simp only [Note.wf, Bool.and_eq_true, Bool.not_eq_true'] at h
  obtain ⟨⟨⟨hname, hnil⟩, hwf⟩, _⟩ := h
  have F := inls_facts n.body false false false 0x0A 0x0A true 0 hwf
  have hp := plain_of_facts n.body _ _ _ _ F rfl
  refine ⟨?_, ?_⟩
  · simp only [Note.ph, Bool.and_eq_true, Bool.not_eq_true', List.isEmpty_eq_false_iff]
    exact ⟨⟨F.ph, F.nl rfl⟩, F.ne hnil⟩
  · simp only [Note.line, plainB_append, markup_plain _ (fnName_markup _ hname), hp, Bool.and_true]; rfl

theorem note_defs_plain (n : Note) (h : n.wf = true) : n.body.defs.all RefDef.plain = true := by
  simp only [Note.wf, Bool.and_eq_true] at h
  exact inls_defs_plain n.body false false false 0x0A 0x0A true 0 h.1.2

theorem hyps_of_ok (d : Doc) (h : d.ok = true) : cleanG d.glines = true ∧ d.ph = true := by
  simp only [Doc.ok, Doc.wf, Bool.and_eq_true] at h
  obtain ⟨⟨⟨hb, hrefs⟩, hnotes⟩, _⟩ := h
  simp only [Doc.notesOk, Bool.and_eq_true, beq_iff_eq] at hnotes
  obtain ⟨⟨⟨⟨⟨_, hnw⟩, huw⟩, _⟩, hlen⟩, hperm⟩ := hnotes
  simp only [Doc.refsOk, Bool.and_eq_true] at hrefs
  have Fb := blks_facts d.blocks false 0 0 .none false hb
  have hnph : d.notes.all Note.ph = true := all_class (fun n hn => (note_facts n hn).1) hnw
  have hvalid := order_valid d.noteOrder d.notes.length hlen (fun i hi => by
    have := List.all_eq_true.mp hperm i (List.mem_range.mpr hi)
    simpa using this)
  refine ⟨?_, ?_⟩
  · have hwn : ∀ n ∈ d.writtenNotes, n.wf = true := by
      intro n hn
      simp only [Doc.writtenNotes, List.mem_append, List.mem_filterMap] at hn
      rcases hn with ⟨i, _, hi⟩ | hn
      · have := List.mem_of_getElem? hi
        exact List.all_eq_true.mp hnw n this
      · exact List.all_eq_true.mp huw n hn
    have hdefs : d.useDefs.all RefDef.plain = true := by
      simp only [Doc.useDefs, List.all_append, Bool.and_eq_true, List.all_flatMap]
      refine ⟨blks_defs_plain d.blocks false 0 0 .none hb, ?_⟩
      simp only [List.all_eq_true]
      intro n hn
      exact List.all_eq_true.mp (note_defs_plain n (hwn n hn))
    have hshadow : d.shadow.all RefDef.plain = true :=
      all_class (fun r hr => by
        simp only [RefDef.ok, Bool.and_eq_true] at hr
        exact refdef_plain r hr.1.1 hr.1.2 hr.2) hrefs.1
    have hg : ∀ (rs : List RefDef), rs.all RefDef.plain = true → allPlain (rs.map RefDef.line) = true := by
      intro rs hrs
      rw [allPlain, List.all_map]
      exact hrs
    have hf : ∀ (q : RefDef → Bool), (d.useDefs.filter q).all RefDef.plain = true := by
      intro q
      simp only [List.all_eq_true] at hdefs ⊢
      exact fun r hr => hdefs r (List.mem_filter.mp hr).1
    have hall : cleanG d.glines = allPlain d.glines := rfl
    rw [hall]
    refine joinGroups_plain _ ?_
    simp only [List.all_cons, List.all_append, List.all_nil, Bool.and_true, Bool.and_eq_true, List.all_map]
    refine ⟨⟨hg _ (hf _), Fb.2, hg _ (by simp only [List.all_append, Bool.and_eq_true]; exact ⟨hf _, hshadow⟩)⟩, ?_⟩
    simp only [List.all_eq_true]
    intro n hn
    simp only [Function.comp, allPlain, List.all_cons, List.all_nil, Bool.and_true]
    exact (note_facts n (hwn n hn)).2
  · simp only [Doc.ph, Bool.and_eq_true]
    exact ⟨⟨⟨Fb.1, hnph⟩, hvalid⟩, hperm⟩

/-- **Positions of canonical documents**: for every `d` with `Doc.ok d`, the positioned tree passes
    the C11 / C12 oracles on `write d`. -/
theorem positions_ok (d : Doc) (h : d.ok = true) : d.posOk = true :=
  positions_doc d (hyps_of_ok d h).1 (hyps_of_ok d h).2

end Comrak.Canon
