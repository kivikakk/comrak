/-
The `footnotesTwice` clause of the oracle `balancedBytes`, which does not depend on the tag stack.  Only a
footnote definition writes a `<section>` start tag, and only the first one does (`St.fnIx = 0`), so the renderer
writes the footnote section at most once - all options, all trees (`renderToks_fnCount`); the lexed bytes of an
allowed token list contain it as often as the token list (`lex_spell_fnCount`).
-/
import Comrak.Lemmas.HtmlLex
import Comrak.Lemmas.HtmlTagNames
namespace Comrak
open Bytes

def isSecName (n : Bytes) : Bool := n == S.t_section

/-- Lexed token that `balStep` counts as the footnote section. -/
def isFnSecL : LTok → Bool
  | .op n as => isFootnoteSection n as
  | _ => false

/-- Model token whose image is counted as the footnote section. -/
def fnSecTok : Tok → Bool
  | .op n as => isSecName n && (as.map lattr).any fun a => a.1 == S.a_class && a.2 == some S.v_footnotes
  | _ => false

def fnCount (ts : List Tok) : Nat := ts.countP fnSecTok

@[simp] theorem isSecName_t_img : isSecName S.t_img = false := by decide
@[simp] theorem isSecName_t_br : isSecName S.t_br = false := by decide
@[simp] theorem isSecName_t_hr : isSecName S.t_hr = false := by decide
@[simp] theorem isSecName_t_input : isSecName S.t_input = false := by decide

@[simp] theorem fnCount_nil : fnCount [] = 0 := rfl
@[simp] theorem fnCount_append (a b : List Tok) : fnCount (a ++ b) = fnCount a + fnCount b := by
  simp [fnCount, List.countP_append]
theorem fnCount_cons (t : Tok) (r : List Tok) : fnCount (t :: r) = (if fnSecTok t then 1 else 0) + fnCount r := by
  simp [fnCount, List.countP_cons]; omega

def noSec : Tok → Bool := namesOk (fun n => !isSecName n) fun _ => true

theorem fnSecTok_of_noSec (t : Tok) (h : noSec t = true) : fnSecTok t = false := by
  cases t <;> try rfl
  case op n as =>
    have hn : isSecName n = false := by simpa [noSec, namesOk] using h
    simp only [fnSecTok, hn, Bool.false_and]

theorem fnCount_noSec (ts : List Tok) (h : ts.all noSec = true) : fnCount ts = 0 :=
  List.countP_eq_zero.mpr fun t ht => by
    simp only [fnSecTok_of_noSec t (List.all_eq_true.mp h t ht), Bool.false_eq_true, not_false_eq_true]

theorem countP_textL (pre : Bytes) : (textL pre).countP isFnSecL = 0 := by
  unfold textL; split <;> simp [isFnSecL]

theorem countP_toLAux (ts : List Tok) (pre : Bytes) : (toLAux pre ts).countP isFnSecL = fnCount ts := by
  induction ts generalizing pre with
  | nil => exact countP_textL pre
  | cons t r ih =>
    rw [fnCount_cons]
    cases t
    case op n as =>
      have : isFnSecL (.op n (as.map lattr)) = fnSecTok (.op n as) := rfl
      simp only [toLAux, List.countP_append, countP_textL, List.countP_cons, ih, this]
      omega
    case cl | vd | cmt => simp [toLAux, countP_textL, ih, isFnSecL, fnSecTok]
    case txt | lit | raw => simp [toLAux, ih, fnSecTok]

theorem names_noSec : NamesOk (fun n => !isSecName n) fun _ => true :=
  ⟨by decide, fun level => by simp [isSecName, headingName, S.t_h, S.t_section], rfl⟩

theorem enter_noSec (o : HtmlOpts) (nt : NormTable) (cx : Ctx) (v : NodeValue) (sp : Sp) (cs : Forest) (st : St)
    (hd : isDef v = false) : (enter o nt cx v sp cs st).1.all noSec = true :=
  enter_namesOk names_noSec o nt cx v sp cs st (fun h => by rw [hd] at h; cases h) (fun _ => by decide)

theorem fnSecTok_section (as : List Attr) :
    fnSecTok (.op S.t_section (as ++ [litAttr S.a_class S.v_footnotes, ⟨S.a_data_footnotes, none⟩])) = true := by
  have hsec : isSecName S.t_section = true := by decide
  simp [fnSecTok, hsec, lattr, litAttr, spellVal, APart.spell]

theorem enter_def_fnCount (o : HtmlOpts) (nt : NormTable) (cx : Ctx) (name : Bytes) (total : Nat) (sp : Sp)
    (cs : Forest) (st : St) :
    fnCount (enter o nt cx (.footnoteDefinition name total) sp cs st).1 = if st.fnIx = 0 then 1 else 0 := by
  have hol : ∀ as, fnSecTok (.op S.t_ol as) = false := fun _ => rfl
  have hli : ∀ as, fnSecTok (.op S.t_li as) = false := fun _ => rfl
  have hlit : ∀ v, fnSecTok (.lit v) = false := fun _ => rfl
  simp only [enter]
  split <;> simp [fnCount, fnSecTok_section, hol, hli, hlit, nl]

theorem exit_noSec (o : HtmlOpts) (cx : Ctx) (v : NodeValue) (cs : Forest) (st : St) :
    (exit o cx v cs st).1.all noSec = true :=
  exit_namesOk names_noSec o cx v cs st

/-- 1 once a footnote definition has been entered. -/
def fnInd (k : Nat) : Nat := if k = 0 then 0 else 1

theorem enter_fnCount (o : HtmlOpts) (nt : NormTable) (cx : Ctx) (v : NodeValue) (sp : Sp) (cs : Forest) (st : St) :
    fnCount (enter o nt cx v sp cs st).1 + fnInd st.fnIx = fnInd (enter o nt cx v sp cs st).2.fnIx := by
  rw [enter_fnIx]
  by_cases hd : isDef v = true
  · obtain ⟨name, total, rfl⟩ : ∃ name total, v = .footnoteDefinition name total := by
      cases v <;> simp_all [isDef]
    rw [enter_def_fnCount]
    simp only [isDef, if_true, fnInd]
    split <;> simp_all
  · have hd' : isDef v = false := by simpa using hd
    rw [fnCount_noSec _ (enter_noSec o nt cx v sp cs st hd')]
    simp [hd']

mutual
theorem renderT_fnCount (o : HtmlOpts) (nt : NormTable) :
    ∀ (t : Tree) (cx : Ctx) (st : St),
      fnCount (renderT o nt cx t st).1 + fnInd st.fnIx = fnInd (renderT o nt cx t st).2.fnIx
  | .node v sp cs, cx, st => by
    rw [renderT_node]
    simp only [fnCount_append, fnCount_noSec _ (exit_noSec o cx v cs _), exit_fnIx, Nat.add_zero]
    have e := enter_fnCount o nt cx v sp cs st
    split
    · have f := renderF_fnCount o nt cs (some v) cx.parent none 0 (enter o nt cx v sp cs st).2
      omega
    · simpa using e
theorem renderF_fnCount (o : HtmlOpts) (nt : NormTable) :
    ∀ (f : Forest) (parent grand prev : Option NodeValue) (idx : Nat) (st : St),
      fnCount (renderF o nt parent grand prev idx f st).1 + fnInd st.fnIx =
        fnInd (renderF o nt parent grand prev idx f st).2.fnIx
  | .nil, _, _, _, _, _ => by simp [renderF]
  | .cons t ts, parent, grand, prev, idx, st => by
    rw [renderF_cons]
    simp only [fnCount_append]
    have h1 := renderT_fnCount o nt t
      { parent := parent, grand := grand, prev := prev, isLast := ts.isNil, index := idx } st
    have h2 := renderF_fnCount o nt ts parent grand (some t.value) (idx + 1)
      (renderT o nt { parent := parent, grand := grand, prev := prev, isLast := ts.isNil, index := idx } t st).2
    omega
end

theorem renderToks_fnCount (o : HtmlOpts) (nt : NormTable) (t : Tree) : fnCount (renderToks o nt t) ≤ 1 := by
  unfold renderToks
  simp only [W.seq_fst, fnCount_append]
  have t1 := renderT_fnCount o nt t {} {}
  have hf : fnCount (finish (renderT o nt {} t {}).2).1 = 0 := by
    apply fnCount_noSec
    unfold finish
    split <;> rfl
  have h0 : fnInd ({} : St).fnIx = 0 := rfl
  have h1 : fnInd (renderT o nt {} t {}).2.fnIx ≤ 1 := by unfold fnInd; split <;> omega
  omega

theorem lex_spell_fnCount (ts : List Tok) (h : ts.all allowedTok = true) :
    ∃ l, lexHtml (spell ts) = some l ∧ l.countP isFnSecL = fnCount ts :=
  ⟨toL ts, lex_spell ts h, countP_toLAux ts []⟩

end Comrak
