/-
`all_toks`: the rewrite rules that turn `(w st).1.all P`, for a writer `w` built from `W.emit`, `W.nop`,
`⨟` and list literals, into the conjunction of `P` on the single tokens.
-/
import Lean.Meta.Tactic.Simp.RegisterCommand
register_simp_attr all_toks
