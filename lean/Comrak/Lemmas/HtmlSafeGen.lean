/-
The closed vocabulary of html.rs as simp lemmas: one per entry of `tagVocab` and `attrVocab`, and the literals of
Comrak/Names.lean that are harmless in text and attribute values.  The `contains` facts have priority `high`:
`simp` must use them before `List.contains_eq_mem` turns their left side into a membership.
-/
import Comrak.HtmlSafe
namespace Comrak
open Bytes

@[simp high] theorem vocab_t_blockquote : tagVocab.contains S.t_blockquote = true := by decide
@[simp high] theorem vocab_t_code : tagVocab.contains S.t_code = true := by decide
@[simp high] theorem vocab_t_pre : tagVocab.contains S.t_pre = true := by decide
@[simp high] theorem vocab_t_em : tagVocab.contains S.t_em = true := by decide
@[simp high] theorem vocab_t_a : tagVocab.contains S.t_a = true := by decide
@[simp high] theorem vocab_t_img : tagVocab.contains S.t_img = true := by decide
@[simp high] theorem vocab_t_figure : tagVocab.contains S.t_figure = true := by decide
@[simp high] theorem vocab_t_figcaption : tagVocab.contains S.t_figcaption = true := by decide
@[simp high] theorem vocab_t_li : tagVocab.contains S.t_li = true := by decide
@[simp high] theorem vocab_t_br : tagVocab.contains S.t_br = true := by decide
@[simp high] theorem vocab_t_ul : tagVocab.contains S.t_ul = true := by decide
@[simp high] theorem vocab_t_ol : tagVocab.contains S.t_ol = true := by decide
@[simp high] theorem vocab_t_p : tagVocab.contains S.t_p = true := by decide
@[simp high] theorem vocab_t_strong : tagVocab.contains S.t_strong = true := by decide
@[simp high] theorem vocab_t_hr : tagVocab.contains S.t_hr = true := by decide
@[simp high] theorem vocab_t_section : tagVocab.contains S.t_section = true := by decide
@[simp high] theorem vocab_t_sup : tagVocab.contains S.t_sup = true := by decide
@[simp high] theorem vocab_t_del : tagVocab.contains S.t_del = true := by decide
@[simp high] theorem vocab_t_table : tagVocab.contains S.t_table = true := by decide
@[simp high] theorem vocab_t_thead : tagVocab.contains S.t_thead = true := by decide
@[simp high] theorem vocab_t_tbody : tagVocab.contains S.t_tbody = true := by decide
@[simp high] theorem vocab_t_tr : tagVocab.contains S.t_tr = true := by decide
@[simp high] theorem vocab_t_th : tagVocab.contains S.t_th = true := by decide
@[simp high] theorem vocab_t_td : tagVocab.contains S.t_td = true := by decide
@[simp high] theorem vocab_t_input : tagVocab.contains S.t_input = true := by decide
@[simp high] theorem vocab_t_div : tagVocab.contains S.t_div = true := by decide
@[simp high] theorem vocab_t_dd : tagVocab.contains S.t_dd = true := by decide
@[simp high] theorem vocab_t_dl : tagVocab.contains S.t_dl = true := by decide
@[simp high] theorem vocab_t_dt : tagVocab.contains S.t_dt = true := by decide
@[simp high] theorem vocab_t_span : tagVocab.contains S.t_span = true := by decide
@[simp high] theorem vocab_t_sub : tagVocab.contains S.t_sub = true := by decide
@[simp high] theorem vocab_t_u : tagVocab.contains S.t_u = true := by decide
@[simp high] theorem avocab_a_data_sourcepos : attrVocab.contains S.a_data_sourcepos = true := by decide
@[simp high] theorem avocab_a_href : attrVocab.contains S.a_href = true := by decide
@[simp high] theorem avocab_a_src : attrVocab.contains S.a_src = true := by decide
@[simp high] theorem avocab_a_alt : attrVocab.contains S.a_alt = true := by decide
@[simp high] theorem avocab_a_title : attrVocab.contains S.a_title = true := by decide
@[simp high] theorem avocab_a_class : attrVocab.contains S.a_class = true := by decide
@[simp high] theorem avocab_a_start : attrVocab.contains S.a_start = true := by decide
@[simp high] theorem avocab_a_id : attrVocab.contains S.a_id = true := by decide
@[simp high] theorem avocab_a_data_footnotes : attrVocab.contains S.a_data_footnotes = true := by decide
@[simp high] theorem avocab_a_data_footnote_ref : attrVocab.contains S.a_data_footnote_ref = true := by decide
@[simp high] theorem avocab_a_data_footnote_backref : attrVocab.contains S.a_data_footnote_backref = true := by decide
@[simp high] theorem avocab_a_data_footnote_backref_idx : attrVocab.contains S.a_data_footnote_backref_idx = true := by decide
@[simp high] theorem avocab_a_aria_label : attrVocab.contains S.a_aria_label = true := by decide
@[simp high] theorem avocab_a_aria_hidden : attrVocab.contains S.a_aria_hidden = true := by decide
@[simp high] theorem avocab_a_align : attrVocab.contains S.a_align = true := by decide
@[simp high] theorem avocab_a_type : attrVocab.contains S.a_type = true := by decide
@[simp high] theorem avocab_a_checked : attrVocab.contains S.a_checked = true := by decide
@[simp high] theorem avocab_a_disabled : attrVocab.contains S.a_disabled = true := by decide
@[simp high] theorem avocab_a_lang : attrVocab.contains S.a_lang = true := by decide
@[simp high] theorem avocab_a_data_meta : attrVocab.contains S.a_data_meta = true := by decide
@[simp high] theorem avocab_a_data_math_style : attrVocab.contains S.a_data_math_style = true := by decide
@[simp high] theorem avocab_a_data_wikilink : attrVocab.contains S.a_data_wikilink = true := by decide
@[simp high] theorem avocab_a_data_escaped_char : attrVocab.contains S.a_data_escaped_char = true := by decide
@[simp] theorem litSafe_v_false : litSafe S.v_false = true := by decide
@[simp] theorem litSafe_v_display : litSafe S.v_display = true := by decide
@[simp] theorem litSafe_v_inline : litSafe S.v_inline = true := by decide
@[simp] theorem litSafe_v_language : litSafe S.v_language = true := by decide
@[simp] theorem litSafe_v_fnref : litSafe S.v_fnref = true := by decide
@[simp] theorem litSafe_v_math : litSafe S.v_math = true := by decide
@[simp] theorem litSafe_v_javascript_colon : litSafe S.v_javascript_colon = true := by decide
@[simp] theorem litSafe_v_vbscript_colon : litSafe S.v_vbscript_colon = true := by decide
@[simp] theorem litSafe_v_file_colon : litSafe S.v_file_colon = true := by decide
@[simp] theorem litSafe_v_data_colon : litSafe S.v_data_colon = true := by decide
@[simp] theorem litSafe_v_data_image : litSafe S.v_data_image = true := by decide
@[simp] theorem litSafe_v_png : litSafe S.v_png = true := by decide
@[simp] theorem litSafe_v_gif : litSafe S.v_gif = true := by decide
@[simp] theorem litSafe_v_jpeg : litSafe S.v_jpeg = true := by decide
@[simp] theorem litSafe_v_webp : litSafe S.v_webp = true := by decide
@[simp] theorem litSafe_v_title : litSafe S.v_title = true := by decide
@[simp] theorem litSafe_v_textarea : litSafe S.v_textarea = true := by decide
@[simp] theorem litSafe_v_style : litSafe S.v_style = true := by decide
@[simp] theorem litSafe_v_xmp : litSafe S.v_xmp = true := by decide
@[simp] theorem litSafe_v_iframe : litSafe S.v_iframe = true := by decide
@[simp] theorem litSafe_v_noembed : litSafe S.v_noembed = true := by decide
@[simp] theorem litSafe_v_noframes : litSafe S.v_noframes = true := by decide
@[simp] theorem litSafe_v_script : litSafe S.v_script = true := by decide
@[simp] theorem litSafe_v_plaintext : litSafe S.v_plaintext = true := by decide

@[simp] theorem litSafe_literals :
    litSafe S.v_footnotes = true ∧ litSafe S.v_footnote_ref = true ∧ litSafe S.v_footnote_backref = true ∧
    litSafe S.v_anchor = true ∧ litSafe S.v_true = true ∧ litSafe S.v_contains_task_list = true ∧
    litSafe S.v_task_list_item = true ∧ litSafe S.v_task_list_item_checkbox = true ∧ litSafe S.v_checkbox = true ∧
    litSafe S.v_left = true ∧ litSafe S.v_right = true ∧ litSafe S.v_center = true ∧
    litSafe S.v_markdown_alert_sp = true ∧ litSafe S.v_markdown_alert_title = true ∧ litSafe S.v_spoiler = true ∧
    litSafe S.v_fn = true ∧ litSafe S.v_hfn = true ∧ litSafe S.v_hfnref = true ∧
    litSafe S.v_hash = true ∧ litSafe S.v_back_to_reference = true ∧ litSafe S.v_Note = true ∧
    litSafe S.v_Tip = true ∧ litSafe S.v_Important = true ∧ litSafe S.v_Warning = true ∧
    litSafe S.v_Caution = true ∧ litSafe S.v_markdown_alert_note = true ∧ litSafe S.v_markdown_alert_tip = true ∧
    litSafe S.v_markdown_alert_important = true ∧ litSafe S.v_markdown_alert_warning = true ∧
    litSafe S.v_markdown_alert_caution = true ∧ litSafe S.v_backarrow = true := by
  decide +kernel

end Comrak
