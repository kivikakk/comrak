/-
Positions of canonical documents, layer K: from `Blk.wf` (part of `Doc.ok`) to the local facts
`Blk.ph`, together with the fact that no line a block writes contains a line end or carriage return.
-/
import Comrak.Lemmas.CanonPosJ
namespace Comrak.Canon
open Comrak Bytes

theorem cleanB_eq_plainB (g : Bytes) : cleanB g = plainB g := rfl

def allPlain (ls : List Bytes) : Bool := ls.all plainB

theorem allPlain_append (a b : List Bytes) : allPlain (a ++ b) = (allPlain a && allPlain b) := by simp [allPlain]

theorem allPlain_single (x : Bytes) : allPlain [x] = plainB x := by simp [allPlain]

theorem splitNl_plain : ∀ (s : Bytes), (∀ x ∈ s, x ≠ 0x0D) → allPlain (splitNl s) = true
  | [], _ => rfl
  | b :: r, h => by
    have ih := splitNl_plain r (fun x hx => h x (List.mem_cons_of_mem b hx))
    by_cases hb : b = 0x0A
    · subst hb
      rw [splitNl_nl]
      exact ih
    · rw [splitNl_other b r hb]
      cases hq : splitNl r with
      | nil => exact absurd hq (splitNl_ne_nil r)
      | cons x t =>
        rw [hq] at ih
        have hx : (plainB x && allPlain t) = true := ih
        show ((b != 0x0A && b != 0x0D && plainB x) && allPlain t) = true
        rw [bne_iff_ne.mpr hb, bne_iff_ne.mpr (h b List.mem_cons_self)]
        exact hx

theorem plain_of_facts (is : Inls) (br : Bool) (p a : UInt8) (f : Bool) (F : InlsF br p a f is) (hb : br = false) : plainB is.src = true := by
  have h1 := F.nl hb
  simp only [plainB, nlFree, List.all_eq_true, Bool.and_eq_true, bne_iff_ne, ne_eq] at h1 ⊢
  exact fun x hx => ⟨h1 x hx, F.cr x hx⟩

theorem marker_plain (m : Marker) (k : Nat) (hb : m.ordered = false → plainByte m.bullet = true) : plainB (m.src k) = true := by
  unfold Marker.src
  split
  · simp only [plainB_append, decBytes_plain, Bool.true_and]
    split <;> rfl
  · rename_i h
    have := hb (by simpa using h)
    simp only [plainB, List.all_cons, List.all_nil, Bool.and_true]
    exact this

theorem task_plain (t : Task) (bs : Blks) (h : t.ok bs = true) : plainB t.src = true := by
  cases t with
  | no => rfl
  | unchecked => rfl
  | checked c =>
    simp only [Task.ok, Bool.and_eq_true, Bool.or_eq_true, beq_iff_eq] at h
    rcases h.1 with rfl | rfl <;> rfl

theorem map_plain (f : Bytes → Bytes) (hf : ∀ l, plainB l = true → plainB (f l) = true) (ls : List Bytes)
    (h : allPlain ls = true) : allPlain (ls.map f) = true := by
  simp only [allPlain, List.all_map, List.all_eq_true] at h ⊢
  exact fun l hl => hf l (h l hl)

theorem quoteLine_plain (l : Bytes) (h : plainB l = true) : plainB (quoteLine l) = true := by
  unfold quoteLine
  split
  · rfl
  · simp only [plainB_append, h, Bool.and_true]; rfl

theorem indent_plain (w : Nat) (l : Bytes) (h : plainB l = true) : plainB (if l.isEmpty then [] else rep w 0x20 ++ l) = true := by
  split
  · rfl
  · simp only [plainB_append, h, rep_plain w 0x20 rfl, Bool.and_self]

theorem itemLines_plain (mk : Bytes) (t : Task) (hmk : plainB mk = true) (hts : plainB t.src = true) :
    ∀ (ls : List Bytes), allPlain ls = true → allPlain (itemLines mk (t.mark ls)) = true
  | [], _ => by simp [Task.mark, itemLines, allPlain, hmk]
  | x :: xs, h => by
    simp only [allPlain, List.all_cons, Bool.and_eq_true] at h
    have h1 : plainB (mk ++ [0x20] ++ (t.src ++ x)) = true := by
      simp only [plainB_append, hmk, hts, h.1, Bool.and_true, Bool.true_and]; rfl
    have h2 := map_plain _ (indent_plain (mk.length + 1)) xs h.2
    simp only [Task.mark, itemLines]
    simp only [allPlain, List.all_cons, Bool.and_eq_true]
    exact ⟨h1, by simpa [allPlain] using h2⟩

theorem cellSrc_plain : ∀ (cs : List Bytes), allPlain cs = true → plainB (cs.flatMap cellSrc) = true
  | [], _ => rfl
  | c :: r, h => by
    simp only [allPlain, List.all_cons, Bool.and_eq_true] at h
    simp only [List.flatMap_cons, cellSrc, plainB_append, h.1, cellSrc_plain r h.2, Bool.and_true]
    rfl

theorem rowSrc_plain (cells : List Bytes) (h : allPlain cells = true) : plainB (rowSrc cells) = true := by
  rw [rowSrc_eq, plainB_append, cellSrc_plain cells h]
  rfl

theorem cells_row_plain (cells : List Inls) (h : cells.all cellWf = true) : plainB (rowSrc (cells.map Inls.src)) = true := by
  refine rowSrc_plain _ ?_
  simp only [allPlain, List.all_map, List.all_eq_true] at h ⊢
  intro c hc
  have hw := h c hc
  simp only [cellWf, Bool.and_eq_true] at hw
  exact plain_of_facts c _ _ _ _ (inls_facts c false false false 0x20 0x20 true 0 hw.1) rfl

theorem align_row_plain (al : List Align) : plainB (rowSrc (al.map alignSrc)) = true := by
  refine rowSrc_plain _ ?_
  simp only [allPlain, List.all_map, List.all_eq_true]
  intro a _
  cases a <;> rfl

theorem getLast_getLastD (ls : List Bytes) (h : (match ls.getLast? with | some l => !l.isEmpty | none => false) = true) :
    (ls.getLastD []).isEmpty = false := by
  rw [List.getLastD_eq_getLast?]
  cases hq : ls.getLast? with
  | none => simp [hq] at h
  | some l => simpa [hq] using h

mutual
theorem blk_facts : ∀ (b : Blk) (tight : Bool) (bullet : UInt8) (idx : Nat) (prev : Prev),
    b.wf tight bullet idx prev = true → b.ph = true ∧ allPlain b.lines = true
  | .para is => fun _ _ _ _ h => by
    simp only [Blk.wf, Bool.and_eq_true, Bool.not_eq_true'] at h
    have F := inls_facts is false false true 0x0A 0x0A true 0 h.2
    have hne := F.ne h.1.2
    exact ⟨by simp [Blk.ph, F.ph, sep_allNonempty _ hne F.sep], by simpa [Blk.lines] using splitNl_plain _ F.cr⟩
  | .heading lv is => fun _ _ _ _ h => by
    simp only [Blk.wf, Bool.and_eq_true, decide_eq_true_eq] at h
    have F := inls_facts is false false false 0x20 0x0A true 0 h.2
    have hp := plain_of_facts is _ _ _ _ F rfl
    refine ⟨by simp [Blk.ph, F.ph, F.nl rfl, h.1.1.1], ?_⟩
    simp only [Blk.lines, allPlain, List.all_cons, List.all_nil, Bool.and_true, plainB_append, hp, rep_plain lv 0x23 rfl]
    rfl
  | .setext lv n is => fun _ _ _ _ h => by
    simp only [Blk.wf, Bool.and_eq_true, decide_eq_true_eq, Bool.not_eq_true'] at h
    have F := inls_facts is false false true 0x0A 0x0A true 0 h.2
    have hne := F.ne h.1.2
    have hn : 2 ≤ n := h.1.1.1.1.2
    have hfs : firstNotSp is.src = true := by
      have := F.fsp h.1.2 rfl rfl
      cases hq : is.src with
      | nil => exact absurd hq hne
      | cons x t =>
        have hh := F.hd
        rw [hq] at hh
        simp only [List.headD_cons] at hh
        simp [firstNotSp, hh, this]
    refine ⟨by simp [Blk.ph, F.ph, sep_allNonempty _ hne F.sep, hfs]; omega, ?_⟩
    simp only [Blk.lines, allPlain_append, splitNl_plain _ F.cr, Bool.true_and, allPlain_single]
    exact rep_plain n (if lv = 1 then 0x3D else 0x2D) (by split <;> rfl)
  | .hr c n => fun _ _ _ _ h => by
    simp only [Blk.wf, Bool.and_eq_true, decide_eq_true_eq] at h
    have hc := h.1.1.1.1
    refine ⟨by simp [Blk.ph, hc, h.1.1.1.2], ?_⟩
    simp only [Blk.lines, allPlain, List.all_cons, List.all_nil, Bool.and_true]
    simp only [Bool.or_eq_true, beq_iff_eq] at hc
    rcases hc with (rfl | rfl) | rfl <;> exact rep_plain n _ rfl
  | .fence c len info ls => fun _ _ _ _ h => by
    simp only [Blk.wf, Bool.and_eq_true, decide_eq_true_eq] at h
    obtain ⟨⟨⟨⟨hc, hlen⟩, _⟩, hinfo⟩, hls⟩ := h
    refine ⟨by simp [Blk.ph, hlen], ?_⟩
    have hcp : plainByte c = true := by
      simp only [Bool.or_eq_true, beq_iff_eq] at hc
      rcases hc with rfl | rfl <;> rfl
    have hlines : allPlain ls = true := all_class (fun l hl => plainB_of_printable l (Bool.and_eq_true _ _ ▸ hl).1) hls
    simp only [Blk.lines, allPlain_append, hlines, allPlain_single, plainB_append,
      rep_plain len c hcp, plainB_of_all info _ (by decide) (by decide) hinfo, Bool.and_self]
  | .icode ls => fun _ _ _ _ h => by
    simp only [Blk.wf, Bool.and_eq_true, Bool.not_eq_true', List.isEmpty_eq_false_iff] at h
    obtain ⟨⟨⟨⟨_, hne⟩, hall⟩, _⟩, hlast⟩ := h
    have hl2 := getLast_getLastD ls hlast
    refine ⟨?_, ?_⟩
    · simp only [Blk.ph, Bool.and_eq_true, Bool.not_eq_true', List.isEmpty_eq_false_iff]
      exact ⟨hne, by simpa using hl2⟩
    simp only [Blk.lines]
    exact map_plain _ (indent_plain 4) ls
      (all_class (fun l hl => plainB_of_printable l (Bool.and_eq_true _ _ ▸ hl).1) hall)
  | .quote bs => fun _ _ _ _ h => by
    simp only [Blk.wf, Bool.and_eq_true, Bool.not_eq_true'] at h
    have F := blks_facts bs false 0 0 .none false h.2
    refine ⟨by simp [Blk.ph, h.1.2, F.1], ?_⟩
    simp only [Blk.lines]
    exact map_plain _ quoteLine_plain _ F.2
  | .list m items => fun _ _ _ _ h => by
    simp only [Blk.wf, Bool.and_eq_true, Bool.not_eq_true'] at h
    obtain ⟨⟨⟨⟨⟨_, hm⟩, hnil⟩, _⟩, _⟩, hwf⟩ := h
    have hb : m.ordered = false → plainByte m.bullet = true := by
      intro ho
      simp only [ho, Bool.false_eq_true, if_false, Bool.or_eq_true, beq_iff_eq] at hm
      rcases hm with (h1 | h1) | h1 <;> rw [h1] <;> rfl
    have F := items_facts items m m.start hb hwf
    exact ⟨by simp [Blk.ph, hnil, F.1], by simpa [Blk.lines] using F.2⟩
  | .htmlb ls => fun _ _ _ _ h => by
    simp only [Blk.wf, Bool.and_eq_true] at h
    have hne : ls ≠ [] := by
      intro e; subst e; simp at h
    refine ⟨?_, ?_⟩
    · simp only [Blk.ph, Bool.and_eq_true, Bool.not_eq_true', List.isEmpty_eq_false_iff]
      exact ⟨hne, all_class (fun l hl => by simp only [Bool.and_eq_true] at hl; exact hl.1.1) h.2⟩
    · exact all_class (fun l hl => by
        simp only [Bool.and_eq_true] at hl
        exact plainB_of_printable l hl.1.2) h.2
  | .table al hd rows => fun _ _ _ _ h => by
    simp only [Blk.wf, Bool.and_eq_true] at h
    obtain ⟨⟨_, hh⟩, hr⟩ := h
    refine ⟨?_, ?_⟩
    · simp only [Blk.ph, Bool.and_eq_true, List.all_eq_true] at hh hr ⊢
      exact ⟨fun c hc => cellPh_of_wf c (hh c hc), fun r hrm c hc => cellPh_of_wf c (hr r hrm c hc)⟩
    · have hrows : allPlain (rows.map fun r => rowSrc (r.map Inls.src)) = true := by
        simp only [allPlain, List.all_map, List.all_eq_true]
        intro r hrm
        exact cells_row_plain r (List.all_eq_true.mp hr r hrm)
      have h2 : allPlain [rowSrc (hd.map Inls.src), rowSrc (al.map alignSrc)] = true := by
        simp only [allPlain, List.all_cons, List.all_nil, cells_row_plain hd hh, align_row_plain, Bool.and_self]
      simp only [Blk.lines, allPlain_append, hrows, h2, Bool.and_self]
theorem blks_facts : ∀ (bs : Blks) (tight : Bool) (bullet : UInt8) (idx : Nat) (prev : Prev) (tl : Bool),
    bs.wf tight bullet idx prev = true → bs.ph = true ∧ allPlain (bs.lines tl) = true
  | .nil => fun _ _ _ _ _ _ => ⟨rfl, rfl⟩
  | .cons b r => fun tight bullet idx prev tl h => by
    simp only [Blks.wf, Bool.and_eq_true] at h
    have Fb := blk_facts b tight bullet idx prev h.1.1
    have Fr := blks_facts r tight bullet (idx + 1) b.asPrev tl h.2
    refine ⟨by simp [Blks.ph, Fb.1, Fr.1], ?_⟩
    simp only [Blks.lines, allPlain_append, Fb.2, Fr.2, Bool.and_true, Bool.true_and]
    split <;> rfl
theorem items_facts : ∀ (items : Items) (m : Marker) (k : Nat), (m.ordered = false → plainByte m.bullet = true) →
    items.wf m = true → items.ph = true ∧ allPlain (items.lines m k) = true
  | .nil => fun _ _ _ _ => ⟨rfl, rfl⟩
  | .cons t bs r => fun m k hb h => by
    simp only [Items.wf, Bool.and_eq_true, Bool.not_eq_true'] at h
    obtain ⟨⟨⟨hnil, htok⟩, hbs⟩, hr⟩ := h
    have Fb := blks_facts bs m.tight _ 0 .none m.tight hbs
    have Fr := items_facts r m (k + 1) hb hr
    refine ⟨?_, ?_⟩
    · simp only [Items.ph, Bool.and_eq_true, Bool.not_eq_true', Bool.or_eq_true]
      refine ⟨⟨⟨hnil, Fb.1⟩, ?_⟩, Fr.1⟩
      cases t with
      | no => left; rfl
      | unchecked => right; simpa [Task.ok] using htok
      | checked c =>
        right
        simp only [Task.ok, Bool.and_eq_true] at htok
        exact htok.2
    · simp only [Items.lines, allPlain_append, Fr.2, Bool.and_true,
        itemLines_plain (m.src k) t (marker_plain m k hb) (task_plain t bs htok) _ Fb.2, Bool.true_and]
      split <;> rfl
end

end Comrak.Canon
