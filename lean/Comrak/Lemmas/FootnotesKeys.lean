/-
C15 (footnotes): the numbering walk sees only the folded labels of the resolvable reference nodes, in walk order.
`runKeys` / `emitKeys` are the final state and the emitted `(name, ref_num, ix)` triples as functions of that list;
first-reference order and the consecutive `ref_num`s are facts about these runs.
-/
import Comrak.Lemmas.Footnotes
namespace Comrak
open Bytes

def nameOf (D : DefTab) (k : Bytes) : Bytes := match D.get? k with | some d => d.name | none => []
def posOf (D : DefTab) (k : Bytes) : Nat := match D.get? k with | some d => d.pos | none => 0

def stepKey (st : NSt) (key : Bytes) : NSt :=
  ⟨if st.seen.contains key then st.seen else st.seen ++ [key], key :: st.hist⟩

def runKeys : NSt → List Bytes → NSt
  | st, [] => st
  | st, k :: ks => runKeys (stepKey st k) ks

def emitKeys (D : DefTab) : NSt → List Bytes → List (Bytes × Nat × Nat)
  | _, [] => []
  | st, k :: ks =>
    (nameOf D k, (stepKey st k).hist.count k, (stepKey st k).seen.idxOf k + 1) :: emitKeys D (stepKey st k) ks

theorem runKeys_append (st : NSt) (a b : List Bytes) : runKeys st (a ++ b) = runKeys (runKeys st a) b := by
  induction a generalizing st with
  | nil => rfl
  | cons k ks ih => simp [runKeys, ih]

theorem emitKeys_append (D : DefTab) (st : NSt) (a b : List Bytes) :
    emitKeys D st (a ++ b) = emitKeys D st a ++ emitKeys D (runKeys st a) b := by
  induction a generalizing st with
  | nil => rfl
  | cons k ks ih => simp [runKeys, emitKeys, ih]

theorem stepKey_seen_of_mem {st : NSt} {k : Bytes} (h : k ∈ st.seen) : (stepKey st k).seen = st.seen := by
  simp [stepKey, h]

theorem stepKey_seen_of_not_mem {st : NSt} {k : Bytes} (h : k ∉ st.seen) :
    (stepKey st k).seen = st.seen ++ [k] := by
  simp [stepKey, h]

theorem stepKey_seen_mem (st : NSt) (k x : Bytes) : x ∈ (stepKey st k).seen ↔ x ∈ st.seen ∨ x = k := by
  by_cases h : k ∈ st.seen
  · rw [stepKey_seen_of_mem h]
    exact ⟨Or.inl, fun h1 => h1.elim id (· ▸ h)⟩
  · rw [stepKey_seen_of_not_mem h, List.mem_append, List.mem_singleton]

theorem stepKey_mem (st : NSt) (k : Bytes) : k ∈ (stepKey st k).seen :=
  (stepKey_seen_mem st k k).mpr (.inr rfl)

/-- A key that has its number keeps it: `seen` only grows at the end. -/
theorem stepKey_idxOf {st : NSt} {x : Bytes} (k : Bytes) (h : x ∈ st.seen) :
    (stepKey st k).seen.idxOf x = st.seen.idxOf x := by
  by_cases hk : k ∈ st.seen
  · rw [stepKey_seen_of_mem hk]
  · rw [stepKey_seen_of_not_mem hk, List.idxOf_append, if_pos h]

theorem stepKey_nodup (st : NSt) (k : Bytes) (h : st.seen.Nodup) : (stepKey st k).seen.Nodup := by
  by_cases hk : k ∈ st.seen
  · rwa [stepKey_seen_of_mem hk]
  · rw [stepKey_seen_of_not_mem hk, List.nodup_append]
    refine ⟨h, by simp, ?_⟩
    intro a ha b hb e
    rw [List.mem_singleton.mp hb] at e
    exact hk (e ▸ ha)

theorem firstRefOrder_next (m : Nat) (xs : List Nat) :
    firstRefOrder m ((m + 1) :: xs) = firstRefOrder (m + 1) xs := by
  simp [firstRefOrder]

theorem firstRefOrder_old {i m : Nat} (h : i < m) (xs : List Nat) :
    firstRefOrder m ((i + 1) :: xs) = firstRefOrder m xs := by
  have hne : ¬ i = m := by omega
  have hle : i + 1 ≤ m := h
  simp [firstRefOrder, hne, hle]

/-- **First-reference order, one step**: a known key repeats a number already issued, a new key gets the next one. -/
theorem stepKey_order (st : NSt) (k : Bytes) (rest : List Nat) :
    firstRefOrder st.seen.length (((stepKey st k).seen.idxOf k + 1) :: rest)
      = firstRefOrder (stepKey st k).seen.length rest := by
  by_cases h : k ∈ st.seen
  · rw [stepKey_seen_of_mem h, firstRefOrder_old (List.idxOf_lt_length_of_mem h)]
  · have hidx : (st.seen ++ [k]).idxOf k = st.seen.length := by
      rw [List.idxOf_append, if_neg h, List.idxOf_cons_self, Nat.zero_add]
    rw [stepKey_seen_of_not_mem h, hidx, firstRefOrder_next, List.length_append, List.length_singleton]

theorem runKeys_seen_mem (st : NSt) (ks : List Bytes) (x : Bytes) :
    x ∈ (runKeys st ks).seen ↔ x ∈ st.seen ∨ x ∈ ks := by
  induction ks generalizing st with
  | nil => simp [runKeys]
  | cons k ks ih => rw [runKeys, ih, stepKey_seen_mem, List.mem_cons, or_assoc]

theorem runKeys_nodup (st : NSt) (ks : List Bytes) (h : st.seen.Nodup) : (runKeys st ks).seen.Nodup := by
  induction ks generalizing st with
  | nil => exact h
  | cons k ks ih => exact ih _ (stepKey_nodup st k h)

theorem runKeys_hist (st : NSt) (ks : List Bytes) : (runKeys st ks).hist = ks.reverse ++ st.hist := by
  induction ks generalizing st with
  | nil => rfl
  | cons k ks ih => rw [runKeys, ih, List.reverse_cons, List.append_assoc]; rfl

theorem runKeys_idxOf (st : NSt) (ks : List Bytes) (k : Bytes) (h : k ∈ st.seen) :
    (runKeys st ks).seen.idxOf k = st.seen.idxOf k := by
  induction ks generalizing st with
  | nil => rfl
  | cons k' ks ih => rw [runKeys, ih _ ((stepKey_seen_mem st k' k).mpr (.inl h)), stepKey_idxOf k' h]

theorem idxOf_inj_of_mem (l : List Bytes) (a b : Bytes) (ha : a ∈ l) (h : l.idxOf a = l.idxOf b) : a = b := by
  have h1 : l.idxOf a < l.length := List.idxOf_lt_length_of_mem ha
  have h2 : l.idxOf b < l.length := h ▸ h1
  rw [← List.getElem_idxOf h1, ← List.getElem_idxOf h2]
  congr 1

/-- **Footnotes are numbered in order of first reference**, as a fact about the run. -/
theorem emitKeys_order (D : DefTab) (ks : List Bytes) (st : NSt) (rest : List Nat) :
    firstRefOrder st.seen.length (ixsOf (emitKeys D st ks) ++ rest)
      = firstRefOrder (runKeys st ks).seen.length rest := by
  induction ks generalizing st with
  | nil => rfl
  | cons k ks ih =>
    rw [emitKeys, runKeys, ← ih (stepKey st k), ← stepKey_order]
    rfl

theorem emitKeys_point (D : DefTab) (ks : List Bytes) (st : NSt) (r : Bytes × Nat × Nat)
    (h : r ∈ emitKeys D st ks) :
    ∃ k, k ∈ (runKeys st ks).seen ∧ r.1 = nameOf D k ∧ r.2.2 = (runKeys st ks).seen.idxOf k + 1 := by
  induction ks generalizing st with
  | nil => cases h
  | cons k ks ih =>
    rcases List.mem_cons.mp h with rfl | h
    · exact ⟨k, (runKeys_seen_mem _ ks k).mpr (.inl (stepKey_mem st k)), rfl,
        by rw [runKeys, runKeys_idxOf _ ks k (stepKey_mem st k)]⟩
    · exact ih (stepKey st k) h

/-- The `ref_num`s handed out for one key are consecutive, in walk order. -/
theorem emitKeys_nums (D : DefTab) (ks : List Bytes) (st : NSt) (k : Bytes) (hk : k ∈ (runKeys st ks).seen) :
    ((emitKeys D st ks).filter (fun r => r.2.2 == (runKeys st ks).seen.idxOf k + 1)).map (·.2.1)
      = List.range' (st.hist.count k + 1) (ks.count k) := by
  induction ks generalizing st with
  | nil => rfl
  | cons k' ks ih =>
    rw [runKeys] at hk ⊢
    have IH := ih (stepKey st k') hk
    have hk' : k' ∈ (runKeys (stepKey st k') ks).seen :=
      (runKeys_seen_mem _ ks k').mpr (.inl (stepKey_mem st k'))
    rw [emitKeys, List.filter_cons, ← runKeys_idxOf _ ks k' (stepKey_mem st k')]
    by_cases hkk : k' = k
    · subst hkk
      have hc : (stepKey st k').hist.count k' = st.hist.count k' + 1 := List.count_cons_self
      rw [if_pos (beq_self_eq_true _), List.map_cons, IH, hc, List.count_cons_self, List.range'_succ]
    · have hne : ((runKeys (stepKey st k') ks).seen.idxOf k' + 1 == (runKeys (stepKey st k') ks).seen.idxOf k + 1)
          = false := by
        rw [beq_eq_false_iff_ne]
        exact fun h => hkk (idxOf_inj_of_mem _ k' k hk' (Nat.succ.inj h))
      have hc : (stepKey st k').hist.count k = st.hist.count k := List.count_cons_of_ne hkk
      simp only [hne, Bool.false_eq_true, if_false, IH, hc, List.count_cons_of_ne hkk]

end Comrak
