/-
Lemmas for C16: the `-e` list folded over `enableExt` in closed form (a field is on iff it was on or its name is
listed), and the loops of the command-line model (`mergeLoop`, `readFiles`, `execute`) by induction or by cases.
-/
import Comrak.Cli
namespace Comrak.Cli
open Comrak Bytes

deriving instance DecidableEq for Except

theorem foldl_enableExt (es : List Ext) (o : ExtensionOptions) :
    es.foldl enableExt o =
      { o with
        strikethrough := o.strikethrough || es.contains .strikethrough
        tagfilter := o.tagfilter || es.contains .tagfilter
        table := o.table || es.contains .table
        autolink := o.autolink || es.contains .autolink
        tasklist := o.tasklist || es.contains .tasklist
        superscript := o.superscript || es.contains .superscript
        footnotes := o.footnotes || es.contains .footnotes
        descriptionLists := o.descriptionLists || es.contains .descriptionLists
        multilineBlockQuotes := o.multilineBlockQuotes || es.contains .multilineBlockQuotes
        alerts := o.alerts || es.contains .alerts
        mathDollars := o.mathDollars || es.contains .mathDollars
        mathCode := o.mathCode || es.contains .mathCode
        wikilinksTitleAfterPipe := o.wikilinksTitleAfterPipe || es.contains .wikilinksTitleAfterPipe
        wikilinksTitleBeforePipe := o.wikilinksTitleBeforePipe || es.contains .wikilinksTitleBeforePipe
        underline := o.underline || es.contains .underline
        subscript := o.subscript || es.contains .subscript
        spoiler := o.spoiler || es.contains .spoiler
        greentext := o.greentext || es.contains .greentext } := by
  induction es generalizing o with
  | nil => simp
  | cons e es ih =>
    rw [List.foldl_cons, ih]
    -- per name: the one field it switches on becomes `true` on both sides, the others agree by unfolding
    cases e <;> simp only [enableExt, List.contains_cons, Bool.true_or, Bool.or_true, BEq.rfl] <;> rfl

theorem chosenHighlighter_eq_some (c : Cli) (t : Bytes) :
    chosenHighlighter c = some t ↔
      (chosenFormat c = .html ∧ c.syntaxHighlighting ≠ [] ∧ c.syntaxHighlighting ≠ N.none)
        ∧ c.syntaxHighlighting = t := by
  unfold chosenHighlighter chosenFormat
  cases c.inplace <;> cases c.format <;> simp

theorem mergeLoop_all_some (env : List Bytes) (pre cfg : List Bytes) :
    mergeLoop pre.length (env.map some) (pre ++ cfg) = some (pre ++ env ++ cfg) := by
  induction env generalizing pre with
  | nil => simp [mergeLoop]
  | cons a env ih =>
    simp only [List.map_cons, mergeLoop]
    have hle : pre.length ≤ (pre ++ cfg).length := by simp
    have h : (pre ++ cfg).insertIdx pre.length a = (pre ++ [a]) ++ cfg := by
      induction pre with
      | nil => simp
      | cons p pre ihp => simpa using ihp (by simp)
    rw [if_pos hle, h]
    have := ih (pre ++ [a])
    simp only [List.length_append, List.length_cons, List.length_nil, Nat.zero_add] at this
    rw [this]
    simp

theorem readFiles_ok (w : World) (fs : List Bytes) (acc : Bytes)
    (content : Bytes → Bytes) (h : ∀ f ∈ fs, w.file f = some (content f)) :
    readFiles w fs acc = .ok (acc ++ (fs.map content).flatten) := by
  induction fs generalizing acc with
  | nil => simp [readFiles]
  | cons f fs ih =>
    have hf := h f (by simp)
    simp only [readFiles, hf]
    rw [ih _ (fun g hg => h g (by simp [hg]))]
    simp

theorem readFiles_unreadable (w : World) (pre : List Bytes) (f : Bytes) (post : List Bytes) (acc : Bytes)
    (hpre : ∀ g ∈ pre, (w.file g).isSome) (hf : w.file f = none) :
    readFiles w (pre ++ f :: post) acc = .error f := by
  induction pre generalizing acc with
  | nil => simp [readFiles, hf]
  | cons g pre ih =>
    have hg := hpre g (by simp)
    cases hc : w.file g with
    | none => simp [hc] at hg
    | some c =>
      simp only [List.cons_append, readFiles, hc]
      exact ih _ (fun x hx => hpre x (by simp [hx]))

theorem execute_fail_or_ok (L : Lib) (w : World) (c : Cli) :
    (∃ code ∈ [1, 3, 4], execute L w c = .fail code) ∨ (execute L w c).exit = 0 := by
  unfold execute
  cases h1 : checkInplace c with
  | some code =>
    have : code = 4 := by
      unfold checkInplace at h1
      split at h1
      · split at h1 <;> simp_all
      · simp at h1
    exact .inl ⟨code, by simp [this], rfl⟩
  | none =>
    cases readInputs w c.files with
    | error e => exact .inl ⟨3, by simp, rfl⟩
    | ok s =>
      by_cases h3 : L.validUtf8 s = true
      · right; cases chosenSink c <;> simp [h3]
      · exact .inl ⟨1, by simp, by simp [h3]⟩

end Comrak.Cli
