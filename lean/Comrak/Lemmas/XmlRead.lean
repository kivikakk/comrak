/-
Reading the model's own output back: the tree builder run over the events of a rendering
returns the element tree of the AST (`xmlTree`).  Together with Lemmas/XmlLex.lean this gives
`readXml (renderXml o t) = some (xmlTree o t)` for every tree without children under literal
kinds.
-/
import Comrak.Lemmas.XmlLex
import Comrak.Lemmas.XmlNamesNe
namespace Comrak
open Bytes

theorem attrPairs_append (a b : List XAttr) : attrPairs (a ++ b) = attrPairs a ++ attrPairs b := by
  induction a with
  | nil => rfl
  | cons x r ih =>
    cases x with
    | mk n v => cases v <;> simp [attrPairs, ih]

theorem isPreserve_cons (n v : Bytes) (r : List (Bytes × Bytes)) :
    isPreserve ((n, v) :: r) = ((n == XS.a_xml_space && v == XS.v_preserve) || isPreserve r) := by
  simp [isPreserve]

theorem isPreserve_append (a b : List (Bytes × Bytes)) : isPreserve (a ++ b) = (isPreserve a || isPreserve b) := by
  simp [isPreserve, List.any_append]

theorem isPreserve_align (a : Align) : isPreserve (attrPairs (alignXmlAttr a)) = false := by
  cases a <;> rfl

theorem isPreserve_sp (o : XmlOpts) (sp : Sp) : isPreserve (attrPairs (xmlSpAttr o sp)) = false := by
  unfold xmlSpAttr; split <;> rfl

/-- The literal kinds, and only they, carry `xml:space="preserve"`.  Per kind (and per shape of
    the attribute list) both sides evaluate: no payload is looked at, since no other attribute
    is called `xml:space`. -/
theorem isPreserve_kind (cx : XCtx) (v : NodeValue) :
    isPreserve (attrPairs (xmlKindAttrs cx v)) = (xmlLiteral v).isSome := by
  cases v
  case tableCell =>
    dsimp only [xmlKindAttrs, xmlLiteral]
    split
    · exact isPreserve_align _
    · rfl
  case codeBlock f fc fl fo info lit =>
    dsimp only [xmlKindAttrs, xmlLiteral]
    cases info.isEmpty <;> cases info == XS.v_math <;> rfl
  case list l =>
    dsimp only [xmlKindAttrs, xmlLiteral]
    cases l.ty <;> cases l.isTaskList <;> rfl
  case alert ty title ml fl fo =>
    cases title <;> cases ml <;> rfl
  all_goals rfl

theorem isPreserve_attrs (o : XmlOpts) (cx : XCtx) (v : NodeValue) (sp : Sp) :
    isPreserve (attrPairs (xmlAttrs o cx v sp)) = (xmlLiteral v).isSome := by
  simp [xmlAttrs, attrPairs_append, isPreserve_append, isPreserve_sp, isPreserve_kind]

theorem attrsGood_align (as : List (Bytes × Bytes)) (a : Align) (h : (as.any fun p => p.1 == XS.a_align) = false) :
    attrsGood as (alignXmlAttr a) = true := by
  cases a <;> simp [alignXmlAttr, xAttr, attrsGood, valOk, h]

/-- Stated after a `sourcepos` attribute; `attrsGood_of_cons` gives the case without one. -/
theorem attrsGood_kind (cx : XCtx) (v : NodeValue) (x : Bytes) :
    attrsGood [(XS.a_sourcepos, x)] (xmlKindAttrs cx v) = true := by
  cases v
  case tableCell =>
    dsimp only [xmlKindAttrs]
    split
    · exact attrsGood_align _ _ (by simp)
    · rfl
  case codeBlock f fc fl fo info lit =>
    dsimp only [xmlKindAttrs]
    cases info.isEmpty <;> cases info == XS.v_math <;>
      simp [xAttr, xAttrE, preserveAttr, attrsGood, valOk, XVal.payload]
  case list l =>
    dsimp only [xmlKindAttrs]
    cases l.ty <;> cases l.isTaskList <;> simp [xAttr, attrsGood, valOk, XVal.payload] <;>
      cases l.delim <;> simp
  case alert ty title ml fl fo =>
    dsimp only [xmlKindAttrs]
    cases title <;> cases ml <;> simp [xAttr, xAttrE, attrsGood, valOk, XVal.payload]
  case math d disp lit =>
    dsimp only [xmlKindAttrs]
    cases disp <;> simp [xAttr, preserveAttr, attrsGood, valOk, XVal.payload]
  all_goals dsimp only [xmlKindAttrs]
  all_goals simp [xAttr, xAttrE, preserveAttr, attrsGood, valOk, XVal.payload]

theorem attrsGood_attrs (o : XmlOpts) (cx : XCtx) (v : NodeValue) (sp : Sp) :
    attrsGood [] (xmlAttrs o cx v sp) = true := by
  unfold xmlAttrs xmlSpAttr
  split
  · simp [xAttr, attrsGood, valOk, XVal.payload, attrsGood_kind]
  · exact attrsGood_of_cons _ _ _ (attrsGood_kind cx v [])

theorem renderXmlToks_good (o : XmlOpts) (t : Tree) :
    (renderXmlToks o t).all tokGood = true :=
  renderXmlT_all o tokGood (fun _ => true)
    (by
      intro ind cx v sp l _
      simp [tokGood, XTok.attrs, XTok.name, xmlName_legal, attrsGood_attrs o cx v sp, attrsGood])
    t 0 {} (Tree.allV_true t)

theorem xbuildLoop_cons (stack : List XFrame) (root : Option XTree) (e : XEv) (es : List XEv) :
    xbuildLoop stack root (e :: es) =
      match xbuildStep stack root e with
      | some p => xbuildLoop p.1 p.2 es
      | none => none := by
  cases stack <;> rfl

/-- Nothing pending at the top: no root yet, or an open element that does not preserve space. -/
def okTop (stack : List XFrame) (root : Option XTree) : Prop :=
  match stack with
  | [] => root = none
  | f :: _ => isPreserve f.attrs = false

/-- Builder state after a finished node has been handed over. -/
def pushNode (t : XTree) (stack : List XFrame) (root : Option XTree) : XBuild :=
  match stack with
  | [] => ([], some t)
  | f :: fs => ({ f with kids := t :: f.kids } :: fs, root)

theorem xaddNode_ok (t : XTree) (stack : List XFrame) (root : Option XTree) (h : okTop stack root) :
    xaddNode t stack root = some (pushNode t stack root) := by
  cases stack with
  | nil => simp only [okTop] at h; subst h; rfl
  | cons f fs => rfl

theorem xaddNode_cons (t : XTree) (f : XFrame) (fs : List XFrame) (root : Option XTree) :
    xaddNode t (f :: fs) root = some ({ f with kids := t :: f.kids } :: fs, root) := rfl

theorem allWs_append (a b : Bytes) : allWs (a ++ b) = (allWs a && allWs b) := by
  simp [allWs, List.all_append]

theorem allWs_indent (i : Nat) : allWs (indentBytes i) = true := by
  simp [allWs, indentBytes, xmlWs]

theorem allWs_nlB : allWs nlB = true := by decide

theorem build_ws (stack : List XFrame) (root : Option XTree) (w : Bytes) (rest : List XEv)
    (hw : allWs w = true) (hok : okTop stack root) :
    xbuildLoop stack root (wsEv w ++ rest) = xbuildLoop stack root rest := by
  unfold wsEv
  split
  · rfl
  · simp only [List.cons_append, List.nil_append, xbuildLoop_cons]
    cases stack with
    | nil => simp [xbuildStep, hw]
    | cons f fs =>
      simp only [okTop] at hok
      simp [xbuildStep, hw, hok]

theorem build_opn (stack : List XFrame) (root : Option XTree) (n : Bytes) (as : List (Bytes × Bytes))
    (rest : List XEv) (hok : okTop stack root) :
    xbuildLoop stack root (.opn n as :: rest) = xbuildLoop ({ name := n, attrs := as } :: stack) root rest := by
  rw [xbuildLoop_cons]
  cases stack with
  | nil => simp only [okTop] at hok; subst hok; rfl
  | cons f fs => rfl

theorem build_empty (stack : List XFrame) (root : Option XTree) (n : Bytes) (as : List (Bytes × Bytes))
    (rest : List XEv) (hok : okTop stack root) :
    xbuildLoop stack root (.empty n as :: rest) =
      xbuildLoop (pushNode (.elem n as .nil) stack root).1 (pushNode (.elem n as .nil) stack root).2 rest := by
  rw [xbuildLoop_cons]
  simp only [xbuildStep, xaddNode_ok _ _ _ hok]

theorem build_text (fr : XFrame) (stack : List XFrame) (root : Option XTree) (v : Bytes) (rest : List XEv)
    (hp : isPreserve fr.attrs = true) :
    xbuildLoop (fr :: stack) root (.text v :: rest) =
      xbuildLoop ({ fr with kids := .text v :: fr.kids } :: stack) root rest := by
  rw [xbuildLoop_cons]
  simp only [xbuildStep, hp, Bool.true_or, if_true, xaddNode_cons]

theorem build_close (fr : XFrame) (stack : List XFrame) (root : Option XTree) (rest : List XEv)
    (hok : okTop stack root) :
    xbuildLoop (fr :: stack) root (.close fr.name :: rest) =
      xbuildLoop (pushNode (.elem fr.name fr.attrs (XForest.ofListRev fr.kids .nil)) stack root).1
        (pushNode (.elem fr.name fr.attrs (XForest.ofListRev fr.kids .nil)) stack root).2 rest := by
  rw [xbuildLoop_cons]
  simp only [xbuildStep, if_true, xaddNode_ok _ _ _ hok]

def XForest.pushRev : XForest → List XTree → List XTree
  | .nil, l => l
  | .cons t ts, l => XForest.pushRev ts (t :: l)

def XForest.app : XForest → XForest → XForest
  | .nil, g => g
  | .cons t ts, g => .cons t (XForest.app ts g)

theorem XForest.app_nil : ∀ f : XForest, XForest.app f .nil = f
  | .nil => rfl
  | .cons t ts => by simp [XForest.app, XForest.app_nil ts]

theorem XForest.ofListRev_pushRev : ∀ (f : XForest) (l : List XTree) (acc : XForest),
    XForest.ofListRev (XForest.pushRev f l) acc = XForest.ofListRev l (XForest.app f acc)
  | .nil, l, acc => rfl
  | .cons t ts, l, acc => by
    simp only [XForest.pushRev, XForest.app]
    rw [XForest.ofListRev_pushRev ts (t :: l) acc]
    rfl

theorem XForest.ofListRev_pushRev_nil (f : XForest) : XForest.ofListRev (XForest.pushRev f []) .nil = f := by
  rw [XForest.ofListRev_pushRev]; simp [XForest.ofListRev, XForest.app_nil]

theorem toksEvs_cons (pre : Bytes) (t : XTok) (r : List XTok) :
    toksEvs pre (t :: r) = tokEvs pre t ++ toksEvs nlB r := rfl

theorem toksEvs_nl_append (a b : List XTok) : toksEvs nlB (a ++ b) = toksEvs nlB a ++ toksEvs nlB b := by
  induction a with
  | nil => rfl
  | cons t r ih => simp [toksEvs, ih]

/-- Reading one subtree hands exactly `xmlTreeT` to the enclosing element (or makes it the root). -/
def RGoalT (o : XmlOpts) (ind : Nat) (cx : XCtx) (t : Tree) : Prop :=
  ∀ (pre : Bytes) (stack : List XFrame) (root : Option XTree) (rest : List XEv),
    allWs pre = true → okTop stack root →
    xbuildLoop stack root (toksEvs pre (renderXmlT o ind cx t) ++ rest) =
      xbuildLoop (pushNode (xmlTreeT o cx t) stack root).1 (pushNode (xmlTreeT o cx t) stack root).2 rest

def RGoalF (o : XmlOpts) (ind : Nat) (parent grand : Option NodeValue) (idx : Nat) (f : Forest) : Prop :=
  ∀ (fr : XFrame) (fs : List XFrame) (root : Option XTree) (rest : List XEv),
    isPreserve fr.attrs = false →
    xbuildLoop (fr :: fs) root (toksEvs nlB (renderXmlF o ind parent grand idx f) ++ rest) =
      xbuildLoop ({ fr with kids := XForest.pushRev (xmlTreeF o parent grand idx f) fr.kids } :: fs) root rest

theorem read_node (o : XmlOpts) (ind : Nat) (cx : XCtx) (v : NodeValue) (sp : Sp) (cs : Forest)
    (hl : ((xmlLiteral v).isNone || cs.isNil) = true)
    (hF : RGoalF o (ind + 2) (some v) cx.parent 0 cs) : RGoalT o ind cx (.node v sp cs) := by
  intro pre stack root rest hpre hok
  have hws : allWs (pre ++ indentBytes ind) = true := by simp [allWs_append, hpre, allWs_indent]
  have hpres := isPreserve_attrs o cx v sp
  cases hlit : xmlLiteral v <;> cases cs
  case some.cons => simp [hlit, Forest.isNil] at hl
  all_goals
    rw [hlit] at hpres
    simp only [renderXmlT, hlit, Forest.isNil, if_true, Bool.false_eq_true, if_false, toksEvs_cons, tokEvs,
      toksEvs_nl_append, toksEvs, List.append_nil, List.append_assoc, xmlTreeT, List.cons_append, List.nil_append]
  case none.nil =>
    rw [build_ws _ _ _ _ hws hok]
    exact build_empty _ _ _ _ _ hok
  case none.cons c r =>
    have hws2 : allWs (nlB ++ indentBytes ind) = true := by simp [allWs_append, allWs_nlB, allWs_indent]
    rw [build_ws _ _ _ _ hws hok, build_opn _ _ _ _ _ hok, hF _ _ _ _ hpres,
      build_ws _ _ _ _ hws2 (by simpa [okTop] using hpres), build_close _ _ _ _ hok, XForest.ofListRev_pushRev_nil]
  case some.nil l =>
    -- literal element: no children; the literal, if not empty, is its one text child
    rw [build_ws _ _ _ _ hws hok, build_opn _ _ _ _ _ hok]
    cases l with
    | nil => exact build_close _ _ _ _ hok
    | cons b r =>
      rw [wsEv, if_neg (by simp), List.cons_append, List.nil_append, build_text _ _ _ _ _ hpres]
      exact build_close _ _ _ _ hok

theorem read_forest_cons (o : XmlOpts) (ind : Nat) (parent grand : Option NodeValue) (idx : Nat) (t : Tree) (ts : Forest)
    (hT : RGoalT o ind { parent := parent, grand := grand, index := idx } t)
    (hF : RGoalF o ind parent grand (idx + 1) ts) : RGoalF o ind parent grand idx (.cons t ts) := by
  intro fr fs root rest hfr
  simp only [renderXmlF, toksEvs_nl_append, List.append_assoc, xmlTreeF, XForest.pushRev]
  rw [hT nlB (fr :: fs) root _ allWs_nlB (by simpa [okTop] using hfr)]
  simp only [pushNode]
  exact hF _ _ _ _ hfr

mutual
theorem readT (o : XmlOpts) : ∀ (t : Tree) (ind : Nat) (cx : XCtx), litLeafT t = true → RGoalT o ind cx t
  | .node v sp cs, ind, cx, h => by
    simp only [litLeafT, Bool.and_eq_true] at h
    exact read_node o ind cx v sp cs h.1 (readF o cs (ind + 2) (some v) cx.parent 0 h.2)
theorem readF (o : XmlOpts) : ∀ (f : Forest) (ind : Nat) (parent grand : Option NodeValue) (idx : Nat),
    litLeafF f = true → RGoalF o ind parent grand idx f
  | .nil, _, _, _, _, _ => by
    intro fr fs root rest _
    simp [renderXmlF, toksEvs, xmlTreeF, XForest.pushRev]
  | .cons t ts, ind, parent, grand, idx, h => by
    simp only [litLeafF, Bool.and_eq_true] at h
    exact read_forest_cons o ind parent grand idx t ts (readT o t ind _ h.1) (readF o ts ind parent grand (idx + 1) h.2)
end

theorem renderXmlT_ne (o : XmlOpts) (ind : Nat) (cx : XCtx) (t : Tree) : renderXmlT o ind cx t ≠ [] := by
  cases t with
  | node v sp cs =>
    simp only [renderXmlT]
    split
    · simp
    · split <;> simp

theorem readXml_renderXml (o : XmlOpts) (t : Tree) (hl : litLeafT t = true) :
    readXml (renderXml o t) = some (xmlTree o t) := by
  unfold readXml renderXml spellXml
  rw [if_pos (isPrefixB_self_append _ _), List.drop_left,
    lexXml_spell _ (renderXmlToks_good o t) (renderXmlT_ne o 0 {} t)]
  simp only [renderXmlToks]
  rw [readT o t 0 {} hl [] [] none _ rfl rfl]
  simp [pushNode, xbuildLoop_cons, xbuildStep, allWs_nlB, xbuildLoop, xmlTree]

end Comrak
