/-
Helper lemmas for C13: bit-mask reasoning that lifts the kernel-evaluated checks over the regenerated
tables (`Comrak/Generated/SpecialChars.lean`) to per-byte statements.  The proofs use the generated
lists only through `tablesOk L = true` and `smartOk = true`.
-/
import Comrak.Inline.Dispatch
namespace Comrak
open Bytes

theorem testBit_maskOf (l : Bytes) (n : Nat) :
    (maskOf l).testBit n = l.any (fun b => b.toNat == n) := by
  induction l with
  | nil => simp [maskOf]
  | cons b r ih =>
    have : maskOf (b :: r) = maskOf r ||| (1 <<< b.toNat) := rfl
    rw [this, Nat.testBit_or, ih, Nat.one_shiftLeft, Nat.testBit_two_pow, List.any_cons, Bool.or_comm]
    congr 1

theorem trigger_eq_testBit (F : Feature) (c : UInt8) :
    trigger F c = (maskOf (triggerBytes F)).testBit c.toNat := by
  rw [trigger, testBit_maskOf, List.contains_eq_any_beq]
  congr 1
  funext b
  rw [Bool.eq_iff_iff, beq_iff_eq, beq_iff_eq, UInt8.toNat_inj, eq_comm]

theorem agreeOutside_testBit (a b t n : Nat) (h : agreeOutside a b t = true) (hn : n < 256)
    (ht : t.testBit n = false) : a.testBit n = b.testBit n := by
  have h0 : ((a ^^^ b) &&& ((2 ^ 256 - 1) ^^^ (t &&& (2 ^ 256 - 1)))) = 0 := by
    simpa [agreeOutside] using h
  have h1 := congrArg (fun x => x.testBit n) h0
  simp only [Nat.testBit_and, Nat.testBit_xor, Nat.testBit_two_pow_sub_one, Nat.zero_testBit, ht, hn,
    decide_true, Bool.bne_false, Bool.and_true] at h1
  simpa using h1

/-- Entries `i` and `i + 2 ^ k` of `L` agree outside `m` whenever bit `k` of `i` is off.  The list is
    walked once, zipped with itself shifted by `2 ^ k`, so that the kernel never has to look an index up. -/
def pairsOk (k m : Nat) (L : List Nat) : Bool :=
  (L.zip (L.drop (2 ^ k))).zipIdx.all fun p => p.2 / 2 ^ k % 2 == 1 || agreeOutside p.1.2 p.1.1 m

theorem pairsOk_getD {k m : Nat} {L : List Nat} (h : pairsOk k m L = true) (i : Nat)
    (hi : i / 2 ^ k % 2 = 0) (hlen : i + 2 ^ k < L.length) :
    agreeOutside (L.getD (i + 2 ^ k) 0) (L.getD i 0) m = true := by
  have hlen' : i < L.length := Nat.lt_of_le_of_lt (Nat.le_add_right i _) hlen
  have hm : ((L.getD i 0, L.getD (i + 2 ^ k) 0), i) ∈ (L.zip (L.drop (2 ^ k))).zipIdx := by
    rw [List.mem_zipIdx_iff_getElem?, List.getElem?_zip_eq_some, List.getElem?_drop, Nat.add_comm (2 ^ k)]
    simp [List.getD_eq_getElem?_getD, hlen, hlen']
  simpa [hi] using List.all_eq_true.mp h _ hm

/-- Position of the feature's bit in `TabBits.index`, for the seven options that feed the tables. -/
def tabBit : Feature → Option Nat
  | .autolink => some 0 | .strikethrough => some 1 | .subscript => some 2 | .superscript => some 3
  | .underline => some 4 | .spoiler => some 5 | .smart => some 6
  | _ => none

/-- The kernel-evaluated check of one regenerated table: it has its 128 entries, and switching one of
    the seven table-feeding options on changes an entry at most at that feature's trigger bytes. -/
def tablesOk (L : List Nat) : Bool :=
  L.length == 128 && Feature.all.all fun F =>
    match tabBit F with
    | some k => pairsOk k (maskOf (triggerBytes F)) L
    | none => true

/-- Switching a feature on leaves `t` alone (the feature feeds no table, or its bit is on already) or
    adds the feature's bit, which was off, to the index.  A fact about the 7-bit index format, settled by
    running through the 128 combinations for each of the seven table features. -/
theorem TabBits.enable_index (t : TabBits) (F : Feature) :
    t.enable F = t ∨ ∃ k ∈ tabBit F, t.index / 2 ^ k % 2 = 0 ∧ (t.enable F).index = t.index + 2 ^ k
      ∧ t.index + 2 ^ k < 128 := by
  obtain ⟨a, b, c, d, e, f, g⟩ := t
  revert a b c d e f g
  cases F <;> first | exact fun _ _ _ _ _ _ _ => .inl rfl | decide +kernel

theorem Opts.tab_enable (o : Opts) (F : Feature) : (o.enable F).tab = o.tab.enable F := by
  cases F <;> rfl

theorem testBit_getD_enable {L : List Nat} (hL : tablesOk L = true) (o : Opts) (F : Feature) (c : UInt8)
    (h : trigger F c = false) :
    (L.getD (o.enable F).tab.index 0).testBit c.toNat = (L.getD o.tab.index 0).testBit c.toNat := by
  rw [Opts.tab_enable]
  rcases TabBits.enable_index o.tab F with e | ⟨k, hk, hoff, e, hlt⟩
  · rw [e]
  · simp only [tablesOk, Bool.and_eq_true, beq_iff_eq, List.all_eq_true] at hL
    have hp := hL.2 F (Feature.mem_all F)
    rw [Option.mem_def.mp hk] at hp
    rw [trigger_eq_testBit] at h
    rw [e]
    exact agreeOutside_testBit _ _ _ _ (pairsOk_getD hp _ hoff (hL.1 ▸ hlt)) c.toNat_lt h

theorem tablesOk_special : tablesOk Generated.specialMasks = true := by decide +kernel
theorem tablesOk_skip : tablesOk Generated.skipMasks = true := by decide +kernel
theorem tablesOk_smart : tablesOk Generated.smartMasks = true := by decide +kernel

/-- The smart table lies inside smart's trigger set, whatever the options. -/
def smartOk : Bool :=
  Generated.smartMasks.all fun x => agreeOutside x 0 (maskOf (triggerBytes .smart))

theorem smartOk_holds : smartOk = true := by decide +kernel

/-- No option outside the seven table bits changes a table (checked on the empty and on the full
    combination of table bits, with each other option switched on alone). -/
def othersOk : Bool :=
  Generated.otherOptionTables.all fun e =>
    e.2.1 == Generated.specialMasks.getD e.1 0 && e.2.2.1 == Generated.skipMasks.getD e.1 0
      && e.2.2.2 == Generated.smartMasks.getD e.1 0

theorem othersOk_holds : othersOk = true := by decide +kernel

end Comrak
