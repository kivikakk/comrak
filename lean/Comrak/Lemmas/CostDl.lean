/-
C06 helper lemmas: the dollar scanners with their memos (`dlLoop true`, the code as it is since /repo commits
657287d and b4925f3) take a number of steps linear in the length of the text.

Potential: 2 per byte still ahead of the inline loop + the text length while `no_code_dollar_closer` is not set
+ for `$` and `$$` the distance from `no_dollar_closer_before[len]` to the end of the text.
A `` $` `` scan that runs to the end costs at most the length and sets its flag. A `$` / `$$` scan only runs when
it starts at or behind the recorded failure position, and when it fails at byte `q` after `q - p + 1` steps the
record moves from at most `p` to `q`. A scan that finds its closer costs at most what it consumes, and the loop
resumes behind it (or, for a closer too close to make a span, it cost at most 2).
-/
import Comrak.Cost
namespace Comrak.Cost
open Comrak Bytes

theorem cdScan_cost (prev : UInt8) (bs : Bytes) :
    ((cdScan prev bs).2 = none → (cdScan prev bs).1 = bs.length + 1) ∧
    ∀ c, (cdScan prev bs).2 = some c → (cdScan prev bs).1 = c ∧ c ≤ bs.length := by
  fun_induction cdScan prev bs
  · simp
  · simp
  · rename_i s ih
    simp only [s, Option.map_eq_none_iff, Option.map_eq_some_iff, List.length_cons] at ih ⊢
    refine ⟨fun h => by have := ih.1 h; omega, ?_⟩
    rintro c ⟨c', hc', rfl⟩
    have := ih.2 c' hc'
    omega

theorem shift_found (r : MdRes) (c : Nat) : r.shift = .found c ↔ ∃ c', r = .found c' ∧ c = c' + 1 := by
  cases r <;> simp [MdRes.shift]; omega

def MdOk (s : Nat × MdRes) (len : Nat) : Prop :=
  1 ≤ s.1 ∧ s.1 ≤ len + 1 ∧ ∀ c, s.2 = .found c → s.1 ≤ c ∧ c ≤ len

theorem mdOk_step (s : Nat × MdRes) (len : Nat) (ih : MdOk s len) : MdOk (s.1 + 1, s.2.shift) (len + 1) := by
  obtain ⟨h0, h1, h2⟩ := ih
  refine ⟨by simp, by simp only; omega, ?_⟩
  intro c h
  obtain ⟨c', hc, rfl⟩ := (shift_found _ _).mp h
  have := h2 c' hc; simp only; omega

theorem mdScan_cost (n : Nat) (prev : UInt8) (bs : Bytes) : MdOk (mdScan n prev bs) bs.length := by
  fun_induction mdScan n prev bs
  all_goals first | exact mdOk_step _ _ ‹_› | simp [MdOk]
  -- `$$` found: the second `$` is part of the text
  rename_i r _ h
  cases r <;> simp at h ⊢

theorem btScanB_pos {L : Nat} {memo : Nat → Nat} {pos cur : Nat} {bs : Bytes} {e : Nat}
    (h : (btScanB L memo pos cur bs).1 = some e) : pos ≤ e := by
  fun_induction btScanB L memo pos cur bs <;> simp_all <;> omega

theorem runLen_le (c : UInt8) (r : Bytes) : runLen c r ≤ r.length := by
  fun_induction runLen c r <;> simp <;> omega

def nb (b : Bool) (n : Nat) : Nat := if b then 0 else n

/-- The text length while `no_code_dollar_closer` is not set, and (with `math_dollars`) the distance from each
    `no_dollar_closer_before[len]` to the end of the text. -/
def flagPot (md : Bool) (fl : DlFlags) (len : Nat) : Nat :=
  nb fl.ncd len + (if md then (len - fl.nd1) + (len - fl.nd2) else 0)

theorem dlCost_cons (e : DlEvent) (evs : List DlEvent) : dlCost (e :: evs) = e.cost + dlCost evs := by
  simp [dlCost]

theorem dlCost_nil : dlCost [] = 0 := rfl

theorem flagPot_ncd (md : Bool) (fl : DlFlags) (len : Nat) (h : fl.ncd = false) :
    flagPot md { fl with ncd := true } len + len = flagPot md fl len := by
  simp [flagPot, nb, h]; omega

theorem flagPot_failAt (d p c len : Nat) (fl : DlFlags) (hd : d = 1 ∨ d = 2)
    (hnd : (if d = 1 then fl.nd1 else fl.nd2) ≤ p) (hc : 1 ≤ c) (hq : p + c ≤ len + 1) :
    flagPot true (failAt true d (p + c - 1) fl) len + c ≤ flagPot true fl len + 1 := by
  rcases hd with rfl | rfl <;> simp [flagPot, failAt] at hnd ⊢ <;> omega

/-! ### One dispatch of the loop as it is (`fix = true`), the rest of the loop being a continuation `k`

`dlLoop_succ` says that this is what `dlLoop` does. Every handler either resumes the loop at a later position
without an event (`backslash`, `backticks`), or pays for one scan out of the potential. -/

/-- Backslash: an escaped punctuation character is skipped with it. -/
def backslash (pos : Nat) (r : Bytes) (k : Nat → List DlEvent) : List DlEvent :=
  match r with
  | c :: _ =>
    if (0x21 ≤ c ∧ c ≤ 0x2F) ∨ (0x3A ≤ c ∧ c ≤ 0x40) ∨ (0x5B ≤ c ∧ c ≤ 0x60) ∨ (0x7B ≤ c ∧ c ≤ 0x7E)
    then k (pos + 2) else k (pos + 1)
  | [] => k (pos + 1)

/-- `handle_backticks` with its positional memo. -/
def backticks (inp : Bytes) (pos : Nat) (r : Bytes) (memo : Nat → Nat) (scanned : Bool)
    (k : Nat → (Nat → Nat) → Bool → List DlEvent) : List DlEvent :=
  let L := runLen 0x60 r + 1
  let p := pos + L
  if MAXBACKTICKS < L then k p memo scanned
  else if scanned && decide (memo L ≤ p) then k p memo scanned
  else
    let s := btScanB L memo p 0 (inp.drop p)
    match s.1 with
    | some e => k e s.2 scanned
    | none => k p s.2 true

/-- `handle_dollars` at a `` $` `` opener. -/
def codeDollar (pos : Nat) (r : Bytes) (fl : DlFlags) (k : Nat → DlFlags → List DlEvent) : List DlEvent :=
  if fl.ncd then k (pos + 1) fl
  else
    let s := cdScan 0x60 (r.drop 1)
    match s.2 with
    | some c =>
      if 3 ≤ c then ⟨pos, s.1, false, true, false, true⟩ :: k (pos + 2 + c) fl
      else ⟨pos, s.1, false, false, false, true⟩ :: k (pos + 1) fl
    | none => ⟨pos, s.1, true, false, false, true⟩ :: k (pos + 1) { fl with ncd := true }

/-- `handle_dollars` at a `$` (`d = 1`) or `$$` (`d = 2`) opener; `rest` = the text after the opener. -/
def mathDollar (pos d : Nat) (rest : Bytes) (fl : DlFlags) (k : Nat → DlFlags → List DlEvent) : List DlEvent :=
  if d = 1 ∧ headIs isSpace rest = true then k (pos + d) fl
  else if pos + d < (if d = 1 then fl.nd1 else fl.nd2) then k (pos + d) fl
  else
    let s := mdScan d 0x24 rest
    match s.2 with
    | .found c =>
      if d + 1 ≤ c then ⟨pos, s.1, false, true, false, false⟩ :: k (pos + d + c) fl
      else ⟨pos, s.1, false, false, false, false⟩ :: k (pos + d) fl
    | .rejected => ⟨pos, s.1, false, false, true, false⟩ :: k (pos + d) (failAt true d (pos + d + s.1 - 1) fl)
    | .ranOut => ⟨pos, s.1, true, false, false, false⟩ :: k (pos + d) (failAt true d (pos + d + s.1 - 1) fl)

/-- `handle_dollars`: `` $` `` with `math_code`, `$` / `$$` with `math_dollars`, otherwise the run is text. -/
def dollars (mc md : Bool) (pos : Nat) (r : Bytes) (fl : DlFlags) (k : Nat → DlFlags → List DlEvent) : List DlEvent :=
  let d := runLen 0x24 r + 1
  if d = 1 ∧ mc = true ∧ r.head? = some 0x60 then codeDollar pos r fl k
  else if md = true ∧ d ≤ 2 then mathDollar pos d (r.drop (d - 1)) fl k
  else k (pos + d) fl

def dlStep (mc md : Bool) (inp : Bytes) (k : Nat → (Nat → Nat) → Bool → DlFlags → List DlEvent)
    (pos : Nat) (memo : Nat → Nat) (scanned : Bool) (fl : DlFlags) : List DlEvent :=
  match inp.drop pos with
  | [] => []
  | b :: r =>
    if b = 0x5C then backslash pos r (fun p => k p memo scanned fl)
    else if b = 0x60 then backticks inp pos r memo scanned (fun p m s => k p m s fl)
    else if b = 0x24 then dollars mc md pos r fl (fun p f => k p memo scanned f)
    else k (pos + 1) memo scanned fl

theorem dlLoop_succ (mc md : Bool) (inp : Bytes) (fuel pos : Nat) (memo : Nat → Nat) (scanned : Bool) (fl : DlFlags) :
    dlLoop true mc md inp (fuel + 1) pos memo scanned fl = dlStep mc md inp (dlLoop true mc md inp fuel) pos memo scanned fl :=
  rfl

theorem codeDollar_bound (md : Bool) (len pos : Nat) (r : Bytes) (fl : DlFlags) (k : Nat → DlFlags → List DlEvent)
    (hr : 1 ≤ r.length) (hlen : pos + 1 + r.length = len)
    (hk : ∀ p f, dlCost (k p f) ≤ 2 * (len - p) + flagPot md f len) :
    dlCost (codeDollar pos r fl k) ≤ 2 * (len - pos) + flagPot md fl len := by
  have hdrop : (r.drop 1).length = r.length - 1 := by simp
  unfold codeDollar
  simp only []
  split
  · have := hk (pos + 1) fl; omega
  rename_i hflag
  split
  · rename_i c hc
    have ⟨h1, h2⟩ := (cdScan_cost _ _).2 c hc
    split
    · have := hk (pos + 2 + c) fl
      simp only [dlCost_cons]; omega
    · have := hk (pos + 1) fl
      simp only [dlCost_cons]; omega
  · rename_i hc
    have h1 := (cdScan_cost _ _).1 hc
    have := hk (pos + 1) { fl with ncd := true }
    have := flagPot_ncd md fl len (by simpa using hflag)
    simp only [dlCost_cons]; omega

theorem mathDollar_bound (len pos d : Nat) (rest : Bytes) (fl : DlFlags) (k : Nat → DlFlags → List DlEvent)
    (hd : d = 1 ∨ d = 2) (hlen : pos + d + rest.length = len)
    (hk : ∀ p f, dlCost (k p f) ≤ 2 * (len - p) + flagPot true f len) :
    dlCost (mathDollar pos d rest fl k) ≤ 2 * (len - pos) + flagPot true fl len := by
  have hs := mdScan_cost d 0x24 rest
  unfold mathDollar
  generalize mdScan d 0x24 rest = s at hs ⊢
  obtain ⟨hc0, hc1, hfound⟩ := hs
  -- the ways the handler goes on, each within the bound
  have failed : (if d = 1 then fl.nd1 else fl.nd2) ≤ pos + d →
      s.1 + dlCost (k (pos + d) (failAt true d (pos + d + s.1 - 1) fl)) ≤ 2 * (len - pos) + flagPot true fl len := by
    intro hnd
    have := hk (pos + d) (failAt true d (pos + d + s.1 - 1) fl)
    have := flagPot_failAt d (pos + d) s.1 len fl hd hnd hc0 (by omega)
    omega
  replace hd : 1 ≤ d := by omega
  have skip : dlCost (k (pos + d) fl) ≤ 2 * (len - pos) + flagPot true fl len := by
    have := hk (pos + d) fl; omega
  have closed : ∀ c p, s.2 = .found c → p = pos + d + c ∨ (c ≤ d ∧ p = pos + d) →
      s.1 + dlCost (k p fl) ≤ 2 * (len - pos) + flagPot true fl len := by
    intro c p hc hp
    have := hfound c hc
    have := hk p fl
    omega
  generalize (if d = 1 then fl.nd1 else fl.nd2) = nd at failed ⊢
  simp only []
  split
  · exact skip
  split
  · exact skip
  rename_i hnd
  split
  · rename_i c hc
    split
    · exact closed c _ hc (Or.inl rfl)
    · exact closed c _ hc (Or.inr ⟨by omega, rfl⟩)
  all_goals exact failed (Nat.le_of_not_lt hnd)

theorem dollars_bound (mc md : Bool) (len pos : Nat) (r : Bytes) (fl : DlFlags) (k : Nat → DlFlags → List DlEvent)
    (hlen : pos + 1 + r.length = len) (hk : ∀ p f, dlCost (k p f) ≤ 2 * (len - p) + flagPot md f len) :
    dlCost (dollars mc md pos r fl k) ≤ 2 * (len - pos) + flagPot md fl len := by
  have hrun := runLen_le 0x24 r
  unfold dollars
  simp only []
  split
  · rename_i hcode
    have hr : 1 ≤ r.length := by
      cases r with
      | nil => simp at hcode
      | cons x y => simp
    exact codeDollar_bound md len pos r fl k hr hlen hk
  split
  · rename_i hmd
    obtain ⟨rfl, hd⟩ := hmd
    exact mathDollar_bound len pos _ _ fl k (by omega) (by simp; omega) hk
  · have := hk (pos + (runLen 0x24 r + 1)) fl; omega

theorem dlStep_bound (mc md : Bool) (inp : Bytes) (k : Nat → (Nat → Nat) → Bool → DlFlags → List DlEvent)
    (pos : Nat) (memo : Nat → Nat) (scanned : Bool) (fl : DlFlags)
    (hk : ∀ p m s f, dlCost (k p m s f) ≤ 2 * (inp.length - p) + flagPot md f inp.length) :
    dlCost (dlStep mc md inp k pos memo scanned fl) ≤ 2 * (inp.length - pos) + flagPot md fl inp.length := by
  have silent : ∀ p m s, pos ≤ p → dlCost (k p m s fl) ≤ 2 * (inp.length - pos) + flagPot md fl inp.length := by
    intro p m s h; have := hk p m s fl; omega
  unfold dlStep
  split
  · simp [dlCost_nil]
  rename_i b r hdrop
  have hlen : pos + 1 + r.length = inp.length := by
    have := congrArg List.length hdrop
    simp at this; omega
  split
  · -- backslash: one or two bytes on, no event
    unfold backslash
    split
    · split <;> exact silent _ _ _ (Nat.le_add_right ..)
    · exact silent _ _ _ (Nat.le_add_right ..)
  split
  · -- backticks: on by the run, or behind the closing run, no event
    unfold backticks
    simp only []
    split
    · exact silent _ _ _ (Nat.le_add_right ..)
    split
    · exact silent _ _ _ (Nat.le_add_right ..)
    split
    · rename_i e he
      exact silent _ _ _ (Nat.le_trans (Nat.le_add_right ..) (btScanB_pos he))
    · exact silent _ _ _ (Nat.le_add_right ..)
  split
  · exact dollars_bound mc md _ pos r fl _ hlen (fun p f => hk p memo scanned f)
  · exact silent _ _ _ (Nat.le_add_right ..)

/-- **Amortised bound for the dollar scanners as they are**: from any state of the inline loop, the steps of
    the scans still to come are at most 2 per byte ahead + the potential of the memos. -/
theorem dlLoop_bound (mc md : Bool) (inp : Bytes) : ∀ (fuel pos : Nat) (memo : Nat → Nat) (scanned : Bool) (fl : DlFlags),
    dlCost (dlLoop true mc md inp fuel pos memo scanned fl) ≤ 2 * (inp.length - pos) + flagPot md fl inp.length
  | 0, _, _, _, _ => by simp [dlLoop, dlCost_nil]
  | fuel + 1, pos, memo, scanned, fl => by
    rw [dlLoop_succ]
    exact dlStep_bound mc md inp _ pos memo scanned fl (dlLoop_bound mc md inp fuel)

/-- `"a" ++ "$\\\\" x k ++ " $"`: every `$` follows a backslash (skipped by the `$` scan) but the inline loop reads
    `\\\\` as an escaped backslash, so every `$` is an opener; the last `$` follows a space. -/
def famRej (k : Nat) : Bytes := [0x61] ++ (List.replicate k [0x24, 0x5C, 0x5C]).flatten ++ [0x20, 0x24]

end Comrak.Cost
