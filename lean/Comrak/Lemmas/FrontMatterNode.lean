/-
C20 helper lemmas, renderer half (HTML and XML): what the formatter models do with a
`FrontMatter` node, and why the siblings that follow it render as they would on their own
(their `prev` / `index` context changes, which only table rows / header cells look at).
-/
import Comrak.Lemmas.HtmlTree
import Comrak.Lemmas.Xml
namespace Comrak
open Bytes

/-- `render_frontmatter` (html.rs) writes nothing. -/
theorem renderT_frontMatter (o : HtmlOpts) (nt : NormTable) (cx : Ctx) (s : Bytes) (sp : Sp) (st : St) :
    renderT o nt cx (.node (.frontMatter s) sp .nil) st = ([], st) := by
  rw [renderT_node]
  simp [enter, exit, htmlChildren, renderF, W.nop]

theorem rowSectionToks_frontMatter (s : Bytes) (h : Bool) :
    rowSectionToks h (some (.frontMatter s)) = rowSectionToks h none := by
  cases h <;> rfl

/-- What `enter` reads of the context besides parent and grandparent: the previous sibling only
    for the `<thead>`/`<tbody>` choice of a table row, and the index only below a grandparent
    (`render_table_cell` reads it through the grandparent's alignments). -/
theorem enter_ctx_congr (o : HtmlOpts) (nt : NormTable) (parent grand prev prev' : Option NodeValue)
    (last last' : Bool) (i i' : Nat)
    (hprev : ∀ h, rowSectionToks h prev = rowSectionToks h prev') (hi : grand = none ∨ i = i')
    (v : NodeValue) (sp : Sp) (cs : Forest) :
    enter o nt { parent := parent, grand := grand, prev := prev, isLast := last, index := i } v sp cs
      = enter o nt { parent := parent, grand := grand, prev := prev', isLast := last', index := i' } v sp cs := by
  cases v
  case tableRow hd => simp only [enter, hprev]
  case tableCell => rcases hi with rfl | rfl <;> rfl
  all_goals rfl

theorem exit_ctx_congr (o : HtmlOpts) (parent grand prev prev' : Option NodeValue) (last : Bool)
    (i i' : Nat) (v : NodeValue) (cs : Forest) :
    exit o { parent := parent, grand := grand, prev := prev, isLast := last, index := i } v cs
      = exit o { parent := parent, grand := grand, prev := prev', isLast := last, index := i' } v cs := by
  cases v <;> rfl

theorem renderT_ctx_congr (o : HtmlOpts) (nt : NormTable) (parent grand prev prev' : Option NodeValue)
    (last : Bool) (i i' : Nat)
    (hprev : ∀ h, rowSectionToks h prev = rowSectionToks h prev') (hi : grand = none ∨ i = i')
    (t : Tree) (st : St) :
    renderT o nt { parent := parent, grand := grand, prev := prev, isLast := last, index := i } t st
      = renderT o nt { parent := parent, grand := grand, prev := prev', isLast := last, index := i' } t st := by
  cases t with
  | node v sp cs =>
    rw [renderT_node, renderT_node, enter_ctx_congr o nt parent grand prev prev' last last i i' hprev hi,
      exit_ctx_congr o parent grand prev prev' last i i']

theorem renderF_ctx_congr (o : HtmlOpts) (nt : NormTable) (parent : Option NodeValue) :
    ∀ (f : Forest) (prev prev' : Option NodeValue) (i j : Nat) (st : St),
      (∀ h, rowSectionToks h prev = rowSectionToks h prev') →
      renderF o nt parent none prev i f st = renderF o nt parent none prev' j f st
  | .nil, _, _, _, _, _, _ => rfl
  | .cons t ts, prev, prev', i, j, st, hprev => by
    rw [renderF_cons, renderF_cons,
      renderT_ctx_congr o nt parent none prev prev' ts.isNil i j hprev (Or.inl rfl),
      renderF_ctx_congr o nt parent ts (some t.value) (some t.value) (i + 1) (j + 1) _ fun _ => rfl]

theorem renderF_after_frontMatter (o : HtmlOpts) (nt : NormTable) (parent : Option NodeValue)
    (s : Bytes) (sp : Sp) (rest : Forest) (st : St) :
    renderF o nt parent none none 0 (.cons (.node (.frontMatter s) sp .nil) rest) st
      = renderF o nt parent none none 0 rest st := by
  rw [renderF_cons, renderT_frontMatter]
  exact renderF_ctx_congr o nt parent rest _ none (0 + 1) 0 st (rowSectionToks_frontMatter s)

theorem renderT_doc_frontMatter (o : HtmlOpts) (nt : NormTable) (s : Bytes) (spd sp : Sp) (rest : Forest) (st : St) :
    renderT o nt {} (.node .document spd (.cons (.node (.frontMatter s) sp .nil) rest)) st
      = renderT o nt {} (.node .document spd rest) st := by
  rw [renderT_node, renderT_node]
  have h := renderF_after_frontMatter o nt (some .document) s sp rest
  simp only [htmlChildren, if_true, enter, exit, W.nop, h]

theorem renderXmlT_frontMatter (o : XmlOpts) (ind : Nat) (cx : XCtx) (s : Bytes) (sp : Sp) :
    renderXmlT o ind cx (.node (.frontMatter s) sp .nil)
      = [.empty ind XS.e_frontmatter (xmlSpAttr o sp)] := by
  rw [renderXmlT]
  -- the kind contributes no attribute
  exact congrArg (fun a => [XTok.empty ind XS.e_frontmatter a]) (List.append_nil _)

theorem renderXmlToks_doc (o : XmlOpts) (spd : Sp) (t : Tree) (ts : Forest) :
    renderXmlToks o (.node .document spd (.cons t ts))
      = .opn 0 XS.e_document (xmlAttrs o {} .document spd) ::
          (renderXmlF o 2 (some .document) none 0 (.cons t ts) ++ [.close 0 XS.e_document]) := by
  simp [renderXmlToks, renderXmlT, xmlLiteral, xmlName, Forest.isNil]

/-- Only cells of a header row read their sibling index (`alignments[ix]`). -/
theorem xmlKindAttrs_index_irrel (parent grand : Option NodeValue) (i j : Nat) (v : NodeValue)
    (hp : parent ≠ some (.tableRow true)) :
    xmlKindAttrs { parent := parent, grand := grand, index := i } v
      = xmlKindAttrs { parent := parent, grand := grand, index := j } v := by
  cases v
  case tableCell =>
    simp only [xmlKindAttrs]
    split
    · simp_all
    · rfl
  all_goals rfl

theorem renderXmlT_index_irrel (o : XmlOpts) (ind : Nat) (parent grand : Option NodeValue) (i j : Nat)
    (hp : parent ≠ some (.tableRow true)) (t : Tree) :
    renderXmlT o ind { parent := parent, grand := grand, index := i } t
      = renderXmlT o ind { parent := parent, grand := grand, index := j } t := by
  cases t with
  | node v sp cs =>
    simp only [renderXmlT, xmlAttrs, xmlKindAttrs_index_irrel parent grand i j v hp]

theorem renderXmlF_index_irrel (o : XmlOpts) (ind : Nat) (parent grand : Option NodeValue)
    (hp : parent ≠ some (.tableRow true)) :
    ∀ (f : Forest) (i j : Nat), renderXmlF o ind parent grand i f = renderXmlF o ind parent grand j f
  | .nil, _, _ => rfl
  | .cons t ts, i, j => by
    simp only [renderXmlF]
    rw [renderXmlT_index_irrel o ind parent grand i j hp t,
      renderXmlF_index_irrel o ind parent grand hp ts (i + 1) (j + 1)]

end Comrak
