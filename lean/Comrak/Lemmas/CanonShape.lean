/-
C03: the tree a canonical document spells satisfies `Shape` (C04's predicate): every edge is in
the containment table, heading levels are 1..6.
-/
import Comrak.Shape
import Comrak.Canon.Ok
namespace Comrak.Canon
open Comrak Bytes

def inlineParent : NodeValue → Bool
  | .paragraph | .heading .. | .emph | .strong | .strikethrough | .link .. | .image .. => true
  | _ => false

def blockParent : NodeValue → Bool
  | .document | .blockQuote | .item _ | .taskItem _ => true
  | _ => false

theorem shapeT_intro {p v : NodeValue} {sp : Sp} {cs : Forest} (hcan : canContain p.kind v.kind = true)
    (hplace : placeOk (some p) v = true) (hlocal : localOk v cs = true) (hcs : shapeF (some v) cs = true) :
    shapeT (some p) (.node v sp cs) = true := by
  simp only [shapeT, hcan, hplace, hlocal, hcs, Bool.and_self]

theorem canContain_inlineParent {p : NodeValue} (hp : inlineParent p = true) {k : Kind}
    (h : canContain .paragraph k = true) : canContain p.kind k = true := by
  cases p with
  -- with the parent's kind a constructor both sides reduce to the same function of `k`
  | paragraph | heading | emph | strong | strikethrough | link | image => exact h
  | _ => contradiction

/-- The row of `document` differs from that of `blockQuote` only at front matter. -/
theorem canContain_blockParent {p : NodeValue} (hp : blockParent p = true) {k : Kind}
    (h : canContain .blockQuote k = true) : canContain p.kind k = true := by
  cases p with
  | blockQuote | item | taskItem => exact h
  | document =>
    revert h
    unfold canContain
    split   -- the child is `document`, front matter, or anything else
    · exact id
    · exact fun _ => rfl
    · exact id
  | _ => contradiction

theorem canContain_inl {p : NodeValue} (hp : inlineParent p = true) (i : Inl) :
    canContain p.kind i.toTree.value.kind = true :=
  canContain_inlineParent hp (by cases i <;> rfl)

theorem canContain_blk {p : NodeValue} (hp : blockParent p = true) (b : Blk) :
    canContain p.kind b.toTree.value.kind = true :=
  canContain_blockParent hp (by cases b <;> rfl)

mutual
theorem inl_shape_under : ∀ (i : Inl) (p : NodeValue), canContain p.kind i.toTree.value.kind = true →
    shapeT (some p) i.toTree = true := by
  intro i p h
  cases i with
  | text | code | hard | soft | fnref => exact shapeT_intro h rfl rfl rfl
  | emph _ cs => exact shapeT_intro h rfl rfl (inls_shape cs .emph rfl)
  | strong _ cs => exact shapeT_intro h rfl rfl (inls_shape cs .strong rfl)
  | strike cs => exact shapeT_intro h rfl rfl (inls_shape cs .strikethrough rfl)
  | link u t _ _ cs => exact shapeT_intro h rfl rfl (inls_shape cs (.link u t) rfl)
  | image u t _ cs => exact shapeT_intro h rfl rfl (inls_shape cs (.image u t) rfl)
  | autolink =>
    refine shapeT_intro h rfl rfl ?_
    simp only [shapeF, Bool.and_true]
    exact shapeT_intro rfl rfl rfl rfl
theorem inls_shape : ∀ (is : Inls) (p : NodeValue), inlineParent p = true → shapeF (some p) is.toForest = true
  | .nil, _, _ => rfl
  | .cons i r, p, hp => by
    simp only [Inls.toForest, shapeF, Bool.and_eq_true]
    exact ⟨inl_shape_under i p (canContain_inl hp i), inls_shape r p hp⟩
end

theorem inl_shape : ∀ (i : Inl) (p : NodeValue), inlineParent p = true → shapeT (some p) i.toTree = true :=
  fun i _ hp => inl_shape_under i _ (canContain_inl hp i)

/-- A cell holds no line breaks (`breaks = false`); every other inline may stand in a cell. -/
theorem cell_inl_shape (i : Inl) (a b : Bool) (p n : UInt8) (f l : Bool) (pc : Nat)
    (h : i.wf a b false p n f l pc = true) : shapeT (some .tableCell) i.toTree = true := by
  refine inl_shape_under i .tableCell ?_
  cases i with
  | hard | soft => simp [Inl.wf] at h
  | _ => rfl

theorem cell_inls_shape : ∀ (is : Inls) (a b : Bool) (p n : UInt8) (f : Bool) (pc : Nat),
    is.wf a b false p n f pc = true → shapeF (some .tableCell) is.toForest = true
  | .nil, _, _, _, _, _, _, _ => rfl
  | .cons i r, a, b, p, n, f, pc, h => by
    simp only [Inls.wf, Bool.and_eq_true] at h
    simp only [Inls.toForest, shapeF, Bool.and_eq_true]
    exact ⟨cell_inl_shape i _ _ _ _ _ _ _ h.1.2, cell_inls_shape r _ _ _ _ _ _ h.2⟩

theorem cellsForest_length : ∀ cs : List Inls, (cellsForest cs).length = cs.length
  | [] => rfl
  | c :: r => by simp only [cellsForest, Forest.length, cellsForest_length r, List.length_cons]

theorem rowsForest_length : ∀ rows : List (List Inls), (rowsForest rows).length = rows.length
  | [] => rfl
  | r :: rs => by simp only [rowsForest, Forest.length, rowsForest_length rs, List.length_cons]

theorem cellsForest_allCells : ∀ cs : List Inls, allCells (cellsForest cs) = true
  | [] => rfl
  | c :: r => by simp only [cellsForest, allCells, cellsForest_allCells r, Bool.and_self]

theorem cellsForest_shape (hd : Bool) : ∀ cs : List Inls, cs.all cellWf = true →
    shapeF (some (.tableRow hd)) (cellsForest cs) = true
  | [], _ => rfl
  | c :: r, h => by
    simp only [List.all_cons, cellWf, Bool.and_eq_true] at h
    simp only [cellsForest, shapeF, Bool.and_eq_true]
    exact ⟨shapeT_intro rfl rfl rfl (cell_inls_shape c _ _ _ _ _ _ h.1.1), cellsForest_shape hd r h.2⟩

theorem row_shape (al : List Align) (a b c : Nat) (hd : Bool) (cs : List Inls) (h : cs.all cellWf = true) :
    shapeT (some (.table al a b c)) (.node (.tableRow hd) {} (cellsForest cs)) = true :=
  shapeT_intro rfl rfl (cellsForest_allCells cs) (cellsForest_shape hd cs h)

theorem rowsForest_shape (al : List Align) (a b c n : Nat) : ∀ rows : List (List Inls),
    rows.all (fun r => r.length == n) = true → rows.all (fun r => r.all cellWf) = true →
    shapeF (some (.table al a b c)) (rowsForest rows) = true ∧ restRows (rowsForest rows) = true ∧
      cellsOk n (rowsForest rows) = true
  | [], _, _ => ⟨rfl, rfl, rfl⟩
  | r :: rs, h1, h2 => by
    simp only [List.all_cons, Bool.and_eq_true] at h1 h2
    obtain ⟨i1, i2, i3⟩ := rowsForest_shape al a b c n rs h1.2 h2.2
    simp only [rowsForest, shapeF, restRows, cellsOk, cellsForest_length, row_shape al a b c false r h2.1, h1.1,
      i1, i2, i3, Bool.and_self, and_self]

mutual
theorem blk_shape : ∀ (b : Blk) (p : NodeValue) (tight : Bool) (bullet : UInt8) (idx : Nat) (prev : Prev),
    blockParent p = true → b.wf tight bullet idx prev = true → shapeT (some p) b.toTree = true := by
  intro b p tight bullet idx prev hp h
  have hcan := canContain_blk hp b
  cases b with
  | para is => exact shapeT_intro hcan rfl rfl (inls_shape is .paragraph rfl)
  | heading l is =>
    simp only [Blk.wf, Bool.and_eq_true] at h
    exact shapeT_intro hcan rfl (Bool.and_eq_true_iff.mpr h.1.1) (inls_shape is (.heading l false) rfl)
  | setext l n is =>
    simp only [Blk.wf, Bool.and_eq_true, Bool.or_eq_true, beq_iff_eq] at h
    have hl : localOk (.heading l true) is.toForest = true := by
      rcases h.1.1.1.1.1 with rfl | rfl <;> rfl
    exact shapeT_intro hcan rfl hl (inls_shape is (.heading l true) rfl)
  | hr | icode | fence | htmlb => exact shapeT_intro hcan rfl rfl rfl
  | quote bs =>
    simp only [Blk.wf, Bool.and_eq_true] at h
    exact shapeT_intro hcan rfl rfl (blks_shape bs .blockQuote false 0 0 .none rfl h.2)
  | list m items =>
    simp only [Blk.wf, Bool.and_eq_true] at h
    exact shapeT_intro hcan rfl rfl (items_shape items m m.start _ h.2)
  | table al hd rows =>
    simp only [Blk.wf, Bool.and_eq_true, beq_iff_eq] at h
    obtain ⟨⟨⟨⟨_, hl⟩, hr⟩, hh⟩, hrs⟩ := h
    obtain ⟨i1, i2, i3⟩ := rowsForest_shape al hd.length rows.length (bodyCells rows) al.length rows hr hrs
    refine shapeT_intro hcan rfl ?_ ?_
    · simp only [localOk, rowsOk, cellsOk, cellsForest_length, i2, i3, hl, beq_self_eq_true, Bool.and_self]
    · simp only [shapeF, row_shape al _ _ _ true hd hh, i1, Bool.and_self]
theorem blks_shape : ∀ (bs : Blks) (p : NodeValue) (tight : Bool) (bullet : UInt8) (idx : Nat) (prev : Prev),
    blockParent p = true → bs.wf tight bullet idx prev = true → shapeF (some p) bs.toForest = true
  | .nil, _, _, _, _, _, _, _ => rfl
  | .cons b r, p, tight, bullet, idx, prev, hp, h => by
    simp only [Blks.wf, Bool.and_eq_true] at h
    simp only [Blks.toForest, shapeF, Bool.and_eq_true]
    exact ⟨blk_shape b p tight bullet idx prev hp h.1.1, blks_shape r p tight bullet (idx + 1) _ hp h.2⟩
theorem items_shape : ∀ (items : Items) (m : Marker) (k : Nat) (L : NList),
    items.wf m = true → shapeF (some (.list L)) (items.toForest m k) = true
  | .nil, _, _, _, _ => rfl
  | .cons t bs r, m, k, L, h => by
    simp only [Items.wf, Bool.and_eq_true] at h
    simp only [Items.toForest, shapeF, Bool.and_eq_true]
    refine ⟨?_, items_shape r m (k + 1) L h.2⟩
    have hc := blks_shape bs (t.value (m.nlist k false)) m.tight _ 0 .none (by cases t <;> rfl) h.1.2
    cases t <;> exact shapeT_intro rfl rfl rfl hc
end

theorem shapeF_then (p : Option NodeValue) (tail : Forest) : ∀ bs : Blks,
    shapeF p (bs.toForestThen tail) = (shapeF p bs.toForest && shapeF p tail)
  | .nil => by simp only [Blks.toForestThen, Blks.toForest, shapeF, Bool.true_and]
  | .cons b r => by simp only [Blks.toForestThen, Blks.toForest, shapeF, shapeF_then p tail r, Bool.and_assoc]

theorem notesForest_shape : ∀ notes : List Note, shapeF (some .document) (notesForest notes) = true
  | [] => rfl
  | n :: r => by
    have hp : shapeT (some (.footnoteDefinition n.name n.total)) (.node .paragraph {} n.body.toForest) = true :=
      shapeT_intro rfl rfl rfl (inls_shape n.body .paragraph rfl)
    have hn : shapeT (some .document) n.toTree = true :=
      shapeT_intro rfl rfl rfl (by simp only [shapeF, hp, Bool.and_self])
    simp only [notesForest, shapeF, hn, notesForest_shape r, Bool.and_self]

theorem doc_shape (d : Doc) (h : d.wf = true) : Shape d.toTree = true := by
  simp only [Doc.wf, Bool.and_eq_true] at h
  have hc := blks_shape d.blocks .document false 0 0 .none rfl h.1.1
  simp only [Shape, Doc.toTree, shapeT, placeOk, localOk, shapeF_then, hc, notesForest_shape, Option.isNone_none,
    Bool.and_self]

end Comrak.Canon
