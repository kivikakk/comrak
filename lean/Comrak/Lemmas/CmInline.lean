/-
The writer on inline content of the canonical class (`Inl.cmOk`): rendering a node acts on the
core as feeding its source bytes (`Writes`), and this composes along `enter`, children, `exit`.
-/
import Comrak.Lemmas.CmCore
namespace Comrak.CmCanon
open Comrak Bytes Comrak.Cm Comrak.Canon

/-- Punctuation the writer escapes with a backslash wherever it stands: `* _ [ ] # < > \ ` !`. -/
def escAlways (c : UInt8) : Bool := [0x2A, 0x5F, 0x5B, 0x5D, 0x23, 0x3C, 0x3E, 0x5C, 0x60, 0x21].contains c

def encB (c : UInt8) : Bytes := if escAlways c then [0x5C, c] else [c]

def txtOk (c : UInt8) : Bool := plainOk c || escAlways c

theorem escAlways_facts (c : UInt8) (h : escAlways c = true) :
    (∀ bc fd nx, needsEscape c .normal bc fd nx = true) ∧ Cm.isPunct c = true ∧ c ≠ 0x0A := by
  simp only [escAlways, List.contains_iff_mem, List.mem_cons, List.not_mem_nil, or_false] at h
  rcases h with h | h | h | h | h | h | h | h | h | h <;> subst h <;> exact ⟨fun _ _ _ => rfl, rfl, by decide⟩

theorem plainOk_notEsc (c : UInt8) (h : plainOk c = true) : escAlways c = false := by
  cases he : escAlways c with
  | false => rfl
  | true =>
    have := (escAlways_facts c he).1 false false 0
    rw [plainOk_noEscape c h] at this
    cases this

theorem writesAs_escaped (c : UInt8) (hc : escAlways c = true) : WritesAs .normal c [0x5C, c] := by
  intro s nx
  obtain ⟨hn, hp, _⟩ := escAlways_facts c hc
  obtain ⟨rv, pf, col, nc, lb, bl, bc, nolb, it, ce, ol⟩ := s
  have hl : (Esc.normal == Esc.literal) = false := rfl
  have hu : (Esc.normal == Esc.url) = false := rfl
  simp only [byteStep, hl, outc, hn, if_true, hu, Bool.false_and, Bool.false_eq_true, if_false, hp, pre, core, aByte,
    List.foldl_cons, List.foldl_nil]
  cases bl <;> simp

theorem writesAs_txt (c : UInt8) (h : txtOk c = true) : WritesAs .normal c (encB c) := by
  unfold encB
  cases he : escAlways c with
  | true => exact writesAs_escaped c he
  | false =>
    have hp : plainOk c = true := by simpa [txtOk, he] using h
    exact writesAs_noEscape .normal c rfl (plainOk_noEscape c hp)

theorem core_outTxt (s : Cm.St) (g : Good (core s)) (bs : Bytes) (h0 : bs.flatMap encB ≠ []) (hp : bs.all txtOk = true) :
    core (output {} false s bs false .normal) = aW (bs.flatMap encB) (core s) :=
  core_output .normal encB s g bs (fun c hc => writesAs_txt c (List.all_eq_true.mp hp c hc)) h0

/-- Destination bytes the writer leaves alone. -/
def urlOk (c : UInt8) : Bool := !(c == 0x60 || c == 0x3C || c == 0x3E || isSpace c || c == 0x5C || c == 0x29 || c == 0x28)
/-- Title bytes the writer leaves alone. -/
def titleOk (c : UInt8) : Bool := !(c == 0x60 || c == 0x3C || c == 0x3E || c == 0x22 || c == 0x5C || c == 0x0A)

theorem urlOk_noesc (c : UInt8) (h : urlOk c = true) : c ≠ 0x0A ∧ ∀ bc fd nx, needsEscape c .url bc fd nx = false := by
  simp only [urlOk, Bool.not_eq_true'] at h
  refine ⟨?_, fun bc fd nx => ?_⟩
  · intro e; subst e; revert h; decide
  · have h1 : (Esc.url == Esc.normal) = false := rfl
    have h2 : (Esc.url == Esc.title) = false := rfl
    have h3 : (Esc.url == Esc.url) = true := rfl
    simp only [needsEscape, h1, h2, h3, h, Bool.false_and, Bool.and_false, Bool.or_false]

theorem titleOk_noesc (c : UInt8) (h : titleOk c = true) : c ≠ 0x0A ∧ ∀ bc fd nx, needsEscape c .title bc fd nx = false := by
  simp only [titleOk, Bool.not_eq_true', Bool.or_eq_false_iff] at h
  obtain ⟨h5, hnl⟩ := h
  refine ⟨by simpa using hnl, fun bc fd nx => ?_⟩
  have h1 : (Esc.title == Esc.normal) = false := rfl
  have h2 : (Esc.title == Esc.url) = false := rfl
  have h3 : (Esc.title == Esc.title) = true := rfl
  have h5' : (c == 0x60 || c == 0x3C || c == 0x3E || c == 0x22 || c == 0x5C) = false := by
    simp only [Bool.or_eq_false_iff]; exact h5
  simp only [needsEscape, h1, h2, h3, h5', Bool.false_and, Bool.and_false, Bool.or_false]

theorem nlFree_of_all (p : UInt8 → Bool) (hp : ∀ c, p c = true → c ≠ 0x0A) (x : Bytes) (h : x.all p = true) : nlFree x = true := by
  simp only [nlFree, List.all_eq_true, bne_iff_ne, ne_eq] at h ⊢
  exact fun b hb => hp b (h b hb)

theorem plain_nlFree (s : Bytes) (h : s.all plainOk = true) : nlFree s = true :=
  nlFree_of_all plainOk plainOk_ne_nl s h

def atomPlain : Atom → Bool
  | .ch c => plainOk c
  | .uni i => decide (i < uniTable.length)
  | .esc c => escAlways c
  | _ => false

def _root_.Comrak.Canon.Inl.isEmph : Inl → Bool | .emph .. => true | _ => false
def _root_.Comrak.Canon.Inl.isHard : Inl → Bool | .hard _ => true | _ => false

mutual
/-- Inline content the writer spells exactly as `Inl.src` does (the class is described at
    `C17.cm_fixed_point_canon_partial`). `brk`: line breaks allowed; `inStrong`: directly inside
    strong emphasis (the writer drops the delimiters of a strong emphasis nested directly in
    another); `fe`: first child of an emphasis (a lone emphasis nested directly in an emphasis is
    written with `_`). A link must not be one the writer turns into an autolink (`isAutolink`), an
    autolink not `mailto:` (the writer drops the scheme). -/
def _root_.Comrak.Canon.Inl.cmOk (brk inStrong : Bool) : Inl → Bool
  | .text as => !as.isEmpty && as.all atomPlain
  | .code n s => decide (1 ≤ n) && n == shortestUnusedSequence s 0x60 && !codePad s && !s.isEmpty && nlFree s
  | .emph us cs => !us && cs.cmOk brk false true
  | .strong us cs => !us && !inStrong && cs.cmOk brk true false
  | .hard b => b && brk
  | .soft => brk
  | .strike cs => cs.cmOk brk false false
  | .link url title angle sp cs =>
    !angle && (match sp with | .inline => true | _ => false) && !url.isEmpty && url.all urlOk && title.all titleOk &&
      !isAutolink url title cs.toForest && cs.cmOk brk false false
  | .image url title angle cs =>
    !angle && !url.isEmpty && url.all urlOk && title.all titleOk && cs.cmOk brk false false
  | .autolink sc r =>
    isAutolink (autolinkUrl sc r) [] (.cons (leaf (.text (autolinkUrl sc r))) .nil) &&
      trimMailto (autolinkUrl sc r) == autolinkUrl sc r && nlFree (autolinkUrl sc r)
  | _ => false
def _root_.Comrak.Canon.Inls.cmOk (brk inStrong fe : Bool) : Inls → Bool
  | .nil => true
  | .cons i r => !(fe && i.isEmph) && !(i.isHard && r.isNil) && i.cmOk brk inStrong && r.cmOk brk inStrong false
end

theorem uni_plain : (List.range uniTable.length).all (fun i => (uniTable.getD i []).all plainOk && !(uniTable.getD i []).isEmpty) = true := by
  decide +kernel

theorem flatMap_encB_plain : ∀ (x : Bytes), x.all plainOk = true → x.flatMap encB = x
  | [], _ => rfl
  | c :: r, h => by
    simp only [List.all_cons, Bool.and_eq_true] at h
    simp [List.flatMap_cons, encB, plainOk_notEsc c h.1, flatMap_encB_plain r h.2]

theorem all_txtOk_plain (x : Bytes) (h : x.all plainOk = true) : x.all txtOk = true := by
  simp only [List.all_eq_true] at h ⊢
  intro c hc; simp [txtOk, h c hc]

theorem atom_plain (a : Atom) (h : atomPlain a = true) :
    a.val.all txtOk = true ∧ a.val.flatMap encB = a.src ∧ a.src ≠ [] ∧ nlFree a.src = true := by
  cases a with
  | ch c =>
    have hp : plainOk c = true := by simpa [atomPlain] using h
    refine ⟨by simp [Atom.val, txtOk, hp], by simp [Atom.val, Atom.src, encB, plainOk_notEsc c hp], by simp [Atom.src], ?_⟩
    simp [Atom.src, nlFree, plainOk_ne_nl c hp]
  | uni i =>
    simp only [atomPlain, decide_eq_true_eq] at h
    have := List.all_eq_true.mp uni_plain i (List.mem_range.mpr h)
    simp only [Bool.and_eq_true, Bool.not_eq_true', List.isEmpty_eq_false_iff] at this
    exact ⟨all_txtOk_plain _ this.1, flatMap_encB_plain _ this.1, this.2, plain_nlFree _ this.1⟩
  | esc c =>
    have hc : escAlways c = true := by simpa [atomPlain] using h
    obtain ⟨_, _, hnl⟩ := escAlways_facts c hc
    refine ⟨by simp [Atom.val, txtOk, hc], by simp [Atom.val, Atom.src, encB, hc], by simp [Atom.src], ?_⟩
    simp [Atom.src, nlFree, hnl]
  | ent i => simp [atomPlain] at h
  | num c x => simp [atomPlain] at h

theorem atoms_plain : ∀ (as : List Atom), as.all atomPlain = true →
    (atomsVal as).all txtOk = true ∧ (atomsVal as).flatMap encB = atomsSrc as ∧ nlFree (atomsSrc as) = true ∧
      (as ≠ [] → atomsSrc as ≠ [])
  | [], _ => ⟨rfl, rfl, rfl, fun h => absurd rfl h⟩
  | a :: r, h => by
    simp only [List.all_cons, Bool.and_eq_true] at h
    obtain ⟨h1, h2, h3, h4⟩ := atom_plain a h.1
    obtain ⟨i1, i2, i3, _⟩ := atoms_plain r h.2
    simp only [atomsVal, atomsSrc, List.flatMap_cons, List.flatMap_append, List.all_append, Bool.and_eq_true] at i1 i2 i3 ⊢
    exact ⟨⟨h1, i1⟩, by rw [h2, i2], by rw [nlFree_append, h4, i3]; rfl, fun _ e => h3 (List.append_eq_nil_iff.mp e).1⟩

theorem isBlock_inl (i : Inl) : isBlockV i.toTree.value = false := by cases i <;> rfl

def inlParent : NodeValue → Bool
  | .paragraph | .heading .. | .emph | .strong | .strikethrough | .link .. | .image .. => true
  | _ => false

theorem inlParent_notItem (pv : NodeValue) (h : inlParent pv = true) : isItemV (some pv) = false := by
  cases pv <;> first | rfl | cases h

theorem core_nolb (s : Cm.St) : (core s).nolb = s.noLinebreaks := rfl
theorem core_ce (s : Cm.St) : (core s).ce = s.customEscape := rfl

def nextOf : Forest → Option NodeValue
  | .cons n _ => some n.value
  | .nil => none

theorem renderF_cons (p g : Option NodeValue) (hp : Bool) (t : Tree) (ts : Forest) (s : Cm.St) :
    renderF {} p g hp (.cons t ts) s = renderF {} p g true ts (renderT {} ⟨p, g, hp, nextOf ts⟩ t s) := by
  simp only [renderF]
  cases ts <;> rfl

theorem renderT_eq (cx : Ctx) (v : NodeValue) (sp : Sp) (cs : Forest) (s : Cm.St) :
    renderT {} cx (.node v sp cs) s =
      (if (enter {} cx v cs s).2 then exit {} cx v (renderF {} (some v) cx.parent false cs (enter {} cx v cs s).1)
       else (enter {} cx v cs s).1) := rfl

/-- The states the inline proofs start from: good, and line breaks allowed where the content has any. -/
structure Ready (brk : Bool) (s : Cm.St) : Prop where
  good : Good (core s)
  nolb : brk = true → s.noLinebreaks = false

theorem Ready.feed {brk : Bool} {s s' : Cm.St} (x : Bytes) (r : Ready brk s) (h : core s' = feedA x (core s)) :
    Ready brk s' := by
  refine ⟨by rw [h]; exact good_feedA _ _ r.good, fun hb => ?_⟩
  have := congrArg Core.nolb h
  rw [(feedA_fields _ _).2.2.1] at this
  exact this.trans (r.nolb hb)

def Writes (brk : Bool) (f : Cm.St → Cm.St) (x : Bytes) : Prop :=
  ∀ s, Ready brk s → core (f s) = feedA x (core s)

theorem Writes.comp {brk : Bool} {f g : Cm.St → Cm.St} {x y : Bytes} (hf : Writes brk f x) (hg : Writes brk g y) :
    Writes brk (fun s => g (f s)) (x ++ y) := by
  intro s r
  rw [feedA_append, ← hf s r]
  exact hg _ (r.feed x (hf s r))

theorem Writes.congr {brk : Bool} {f : Cm.St → Cm.St} {x y : Bytes} (h : x = y) (hf : Writes brk f x) : Writes brk f y :=
  h ▸ hf

theorem Writes.of_aW {brk : Bool} {f : Cm.St → Cm.St} {bs : Bytes} (h0 : bs ≠ []) (hn : nlFree bs = true)
    (h : ∀ s, Good (core s) → core (f s) = aW bs (core s)) : Writes brk f bs :=
  fun s r => by rw [feedA_nlFree bs _ h0 hn]; exact h s r.good

theorem writes_wr (brk : Bool) (bs : Bytes) (hn : nlFree bs = true) : Writes brk (wr {} false bs) bs := by
  cases bs with
  | nil => exact fun _ _ => rfl
  | cons b r => exact .of_aW (by simp) hn fun s g => core_wr s g _ (by simp) hn

theorem writes_raw (brk : Bool) (esc : Esc) (bs : Bytes) (h0 : bs ≠ []) (hn : nlFree bs = true)
    (hw : ∀ c ∈ bs, WritesAs esc c [c]) : Writes brk (fun s => output {} false s bs false esc) bs :=
  .of_aW h0 hn fun s g => core_output_raw esc s g bs hw h0

theorem writes_cr (brk : Bool) : Writes brk St.cr [0x0A] := fun s _ => by simp [feedA, core_cr]

theorem Writes.node {brk : Bool} (cx : Ctx) (v : NodeValue) (sp : Sp) (cs : Forest) {f g : Cm.St → Cm.St} {a x z : Bytes}
    (hen : ∀ s, Ready brk s → enter {} cx v cs s = (f s, true))
    (hex : ∀ s, Ready brk s → exit {} cx v s = g s)
    (hf : Writes brk f a) (hx : Writes brk (renderF {} (some v) cx.parent false cs) x) (hg : Writes brk g z) :
    Writes brk (renderT {} cx (.node v sp cs)) (a ++ x ++ z) := by
  intro s r
  have r1 := r.feed a (hf s r)
  have r2 := r1.feed x (hx _ r1)
  rw [renderT_eq, hen s r]
  simp only [if_true]
  rw [hex _ r2]
  exact ((hf.comp hx).comp hg) s r

theorem Writes.leaf {brk : Bool} (cx : Ctx) (v : NodeValue) {f : Cm.St → Cm.St} {a : Bytes}
    (hen : ∀ s, Ready brk s → enter {} cx v .nil s = (f s, true)) (hex : ∀ s, exit {} cx v s = s)
    (hf : Writes brk f a) : Writes brk (renderT {} cx (leaf v)) a := by
  have := Writes.node cx v {} .nil (g := fun s => s) (x := []) (z := []) hen (fun s _ => hex s) hf (fun _ _ => rfl) (fun _ _ => rfl)
  rw [List.append_nil, List.append_nil] at this
  exact this

/-- The state `enter` works on: a child of a list item takes over the tightness of the list. -/
def tightened (cx : Ctx) (s : Cm.St) : Cm.St :=
  if isItemV cx.parent then { s with inTight := grandTight cx } else s

section enterExit
variable (cx : Ctx) (s : Cm.St) (cs : Forest) (hce : s.customEscape = false) (hip : isItemV cx.parent = false)
include hce hip

theorem enter_text (lit : Bytes) : enter {} cx (.text lit) cs s = (output {} false s lit false .normal, true) := by
  unfold enter
  simp only [hip, hce, Bool.false_eq_true, if_false, Bool.false_and]
  rfl

theorem enter_code (n : Nat) (lit : Bytes) (hpad : codePad lit = false) :
    enter {} cx (.code n lit) cs s =
      (wr {} false (List.replicate (shortestUnusedSequence lit 0x60) 0x60)
        (output {} false (wr {} false (List.replicate (shortestUnusedSequence lit 0x60) 0x60) s) lit false .literal), true) := by
  unfold enter
  simp only [hip, hce, hpad, Bool.false_eq_true, if_false, Bool.false_and]
  rfl

theorem enter_emph (hd : ¬ (cx.parent = some .emph ∧ cx.next = none ∧ cx.hasPrev = false)) :
    enter {} cx .emph cs s = (wr {} false [0x2A] s, true) := by
  unfold enter
  simp only [hip, hce, Bool.false_eq_true, if_false, Bool.false_and]
  split
  · rename_i hpar
    have : (cx.next.isNone && !cx.hasPrev) = false := by
      cases hn : cx.next <;> cases hh : cx.hasPrev <;> simp_all
    simp only [Bool.true_and, this, Bool.false_eq_true, if_false]
  · rfl

theorem enter_strong (hns : cx.parent ≠ some .strong) : enter {} cx .strong cs s = (wr {} false [0x2A, 0x2A] s, true) := by
  -- `simp` takes the default branch of the `match` on the parent because `hns` is at hand
  unfold enter
  simp only [hip, hce, Bool.false_eq_true, if_false, Bool.false_and]

theorem enter_hard (n : NodeValue) (hn : cx.next = some n) (hnb : isBlockV n = false) :
    enter {} cx .lineBreak cs s = ((wr {} false [0x5C] s).cr, true) := by
  unfold enter
  simp only [hip, hce, hn, hnb, Bool.false_eq_true, if_false, Bool.false_and]
  rfl

theorem enter_soft (hnl : s.noLinebreaks = false) : enter {} cx .softBreak cs s = (s.cr, true) := by
  unfold enter
  simp only [hip, hce, hnl, Bool.false_eq_true, if_false, Bool.false_and]
  rfl

theorem enter_strike : enter {} cx .strikethrough cs s = (wr {} false [0x7E, 0x7E] s, true) := by
  unfold enter
  simp only [hip, hce, Bool.false_eq_true, if_false, Bool.false_and]

theorem enter_link (url title : Bytes) (ha : isAutolink url title cs = false) :
    enter {} cx (.link url title) cs s = (wr {} false [0x5B] s, true) := by
  unfold enter
  simp only [hip, hce, ha, Bool.false_eq_true, if_false, Bool.false_and]

theorem enter_autolink (url : Bytes) (ha : isAutolink url [] cs = true) :
    enter {} cx (.link url []) cs s = (wr {} false [0x3E] (wr {} false (trimMailto url) (wr {} false [0x3C] s)), false) := by
  unfold enter
  simp only [hip, hce, ha, Bool.false_eq_true, if_false, if_true, Bool.false_and]

theorem enter_image (url title : Bytes) : enter {} cx (.image url title) cs s = (wr {} false [0x21, 0x5B] s, true) := by
  unfold enter
  simp only [hip, hce, Bool.false_eq_true, if_false, Bool.false_and]

end enterExit

theorem exit_strike (cx : Ctx) (s : Cm.St) (hce : s.customEscape = false) :
    exit {} cx .strikethrough s = wr {} false [0x7E, 0x7E] s := by
  unfold exit
  simp only [hce, Bool.false_and]

def titlePart (title : Bytes) (s : Cm.St) : Cm.St :=
  if title.isEmpty then s else wr {} false [0x22] (output {} false (wr {} false [0x20, 0x22] s) title false .title)

/-- The tail of an inline link or image: `](dest "title")`. -/
def linkTail (url title : Bytes) (s : Cm.St) : Cm.St :=
  wr {} false [0x29] (titlePart title (output {} false (wr {} false [0x5D, 0x28] s) url false .url))

theorem exit_link (cx : Ctx) (s : Cm.St) (url title : Bytes) (hce : s.customEscape = false) :
    exit {} cx (.link url title) s = linkTail url title s := by
  unfold exit
  simp only [hce, Bool.false_and, linkTail, titlePart]

theorem exit_image (cx : Ctx) (s : Cm.St) (url title : Bytes) (hce : s.customEscape = false) :
    exit {} cx (.image url title) s = linkTail url title s := by
  unfold exit
  simp only [hce, Bool.false_and, linkTail, titlePart]
  split <;> rfl

theorem writes_titlePart (brk : Bool) (title : Bytes) (ht : title.all titleOk = true) :
    Writes brk (fun s => titlePart title s) (titleSrc title) := by
  cases ht0 : title.isEmpty with
  | true =>
    simp only [titlePart, titleSrc, ht0, if_true]
    exact fun _ _ => rfl
  | false =>
    have ht1 : title ≠ [] := by intro e; rw [e] at ht0; cases ht0
    simp only [titlePart, titleSrc, ht0, Bool.false_eq_true, if_false]
    exact ((writes_wr brk [0x20, 0x22] rfl).comp
      (writes_raw brk .title title ht1 (nlFree_of_all titleOk (fun c h => (titleOk_noesc c h).1) title ht)
        (fun c hc => writesAs_noEscape .title c rfl (titleOk_noesc c (List.all_eq_true.mp ht c hc)).2))).comp
      (writes_wr brk [0x22] rfl)

theorem writes_linkTail (brk : Bool) (url title : Bytes) (hu0 : url ≠ []) (hu : url.all urlOk = true)
    (ht : title.all titleOk = true) :
    Writes brk (fun s => linkTail url title s) ([0x5D, 0x28] ++ destSrc url false ++ titleSrc title ++ [0x29]) :=
  (((writes_wr brk [0x5D, 0x28] rfl).comp
    (writes_raw brk .url url hu0 (nlFree_of_all urlOk (fun c h => (urlOk_noesc c h).1) url hu)
      (fun c hc => writesAs_noEscape .url c rfl (urlOk_noesc c (List.all_eq_true.mp hu c hc)).2))).comp
    (writes_titlePart brk title ht)).comp (writes_wr brk [0x29] rfl)

theorem exit_emph (cx : Ctx) (s : Cm.St) (hce : s.customEscape = false)
    (hd : ¬ (cx.parent = some .emph ∧ cx.next = none ∧ cx.hasPrev = false)) :
    exit {} cx .emph s = wr {} false [0x2A] s := by
  unfold exit
  simp only [hce, Bool.false_and]
  split
  · rename_i hpar
    have : (cx.next.isNone && !cx.hasPrev) = false := by
      cases hn : cx.next <;> cases hh : cx.hasPrev <;> simp_all
    simp only [Bool.true_and, this, Bool.false_eq_true, if_false]
  · rfl

theorem exit_strong (cx : Ctx) (s : Cm.St) (hce : s.customEscape = false) (hns : cx.parent ≠ some .strong) :
    exit {} cx .strong s = wr {} false [0x2A, 0x2A] s := by
  unfold exit
  simp only [hce, Bool.false_and]

mutual
theorem inl_writes : ∀ (i : Inl) (brk inStrong : Bool), i.cmOk brk inStrong = true →
    ∀ (cx : Ctx), isItemV cx.parent = false → (cx.parent = some .strong → inStrong = true) →
      (i.isEmph = true → ¬ (cx.parent = some .emph ∧ cx.next = none ∧ cx.hasPrev = false)) →
      (i.isHard = true → ∃ n, cx.next = some n ∧ isBlockV n = false) →
      Writes brk (renderT {} cx i.toTree) i.src
  | .text as, brk, _, h, cx, hip, _, _, _ => by
    simp only [Inl.cmOk, Bool.and_eq_true, Bool.not_eq_true', List.isEmpty_eq_false_iff] at h
    obtain ⟨hv, henc, hnf, hne⟩ := atoms_plain as h.2
    have hw : Writes brk (fun s => output {} false s (atomsVal as) false .normal) (atomsSrc as) :=
      .of_aW (hne h.1) hnf fun s g => henc ▸ core_outTxt s g _ (henc ▸ hne h.1) hv
    exact Writes.leaf cx _ (fun s r => enter_text cx s .nil r.good.ce hip _) (fun _ => rfl) hw
  | .code n lit, brk, _, h, cx, hip, _, _, _ => by
    simp only [Inl.cmOk, Bool.and_eq_true, Bool.not_eq_true', List.isEmpty_eq_false_iff, decide_eq_true_eq, beq_iff_eq] at h
    obtain ⟨⟨⟨⟨_, hn⟩, hpad⟩, hl0⟩, hnl⟩ := h
    subst hn
    have wt := writes_wr brk (List.replicate (shortestUnusedSequence lit 0x60) 0x60) (by simp [nlFree, List.all_replicate])
    have hw := (wt.comp (writes_raw brk .literal lit hl0 hnl
      (fun c hc => writesAs_literal c (by simpa using List.all_eq_true.mp hnl c hc)))).comp wt
    exact Writes.leaf cx _ (fun s r => enter_code cx s .nil r.good.ce hip _ lit hpad) (fun _ => rfl) hw
  | .emph us cs, brk, _, h, cx, hip, _, hem, _ => by
    simp only [Inl.cmOk, Bool.and_eq_true, Bool.not_eq_true'] at h
    obtain ⟨hus, hcs⟩ := h
    subst hus
    have hd := hem rfl
    have w := writes_wr brk [0x2A] rfl
    exact Writes.node cx .emph {} _ (fun s r => enter_emph cx s _ r.good.ce hip hd) (fun s r => exit_emph cx s r.good.ce hd)
      w (inls_sim cs brk false true hcs .emph cx.parent false rfl (fun h => by cases h) (fun _ _ => rfl)) w
  | .strong us cs, brk, inStrong, h, cx, hip, hst, _, _ => by
    simp only [Inl.cmOk, Bool.and_eq_true, Bool.not_eq_true'] at h
    obtain ⟨⟨hus, his⟩, hcs⟩ := h
    subst hus
    have hns : cx.parent ≠ some .strong := fun e => by rw [hst e] at his; cases his
    have w := writes_wr brk [0x2A, 0x2A] rfl
    exact Writes.node cx .strong {} _ (fun s r => enter_strong cx s _ r.good.ce hip hns)
      (fun s r => exit_strong cx s r.good.ce hns)
      w (inls_sim cs brk true false hcs .strong cx.parent false rfl (fun _ => rfl) (fun h => by cases h)) w
  | .hard b, brk, _, h, cx, hip, _, _, hh => by
    simp only [Inl.cmOk, Bool.and_eq_true] at h
    obtain ⟨hb1, hbk⟩ := h
    subst hb1
    obtain ⟨n, hn, hnb⟩ := hh rfl
    exact Writes.leaf cx _ (fun s r => enter_hard cx s .nil r.good.ce hip n hn hnb) (fun _ => rfl)
      ((writes_wr brk [0x5C] rfl).comp (writes_cr brk))
  | .soft, brk, _, h, cx, hip, _, _, _ => by
    simp only [Inl.cmOk] at h
    exact Writes.leaf cx _ (fun s r => enter_soft cx s .nil r.good.ce hip (r.nolb h)) (fun _ => rfl) (writes_cr brk)
  | .strike cs, brk, _, h, cx, hip, _, _, _ => by
    simp only [Inl.cmOk] at h
    have w := writes_wr brk [0x7E, 0x7E] rfl
    exact Writes.node cx .strikethrough {} _ (fun s r => enter_strike cx s _ r.good.ce hip) (fun s r => exit_strike cx s r.good.ce)
      w (inls_sim cs brk false false h .strikethrough cx.parent false rfl (fun h => by cases h) (fun h => by cases h)) w
  | .link url title angle sp cs, brk, _, h, cx, hip, _, _, _ => by
    cases sp with
    | ref l d b => simp [Inl.cmOk] at h
    | inline =>
    simp only [Inl.cmOk, Bool.and_eq_true, Bool.not_eq_true', List.isEmpty_eq_false_iff, Bool.and_true] at h
    obtain ⟨⟨⟨⟨⟨han, hu0⟩, hu⟩, ht⟩, hau⟩, hcs⟩ := h
    subst han
    exact (Writes.node cx (.link url title) {} _ (fun s r => enter_link cx s _ r.good.ce hip url title hau)
      (fun s r => exit_link cx s url title r.good.ce) (writes_wr brk [0x5B] rfl)
      (inls_sim cs brk false false hcs (.link url title) cx.parent false rfl (fun h => by cases h) (fun h => by cases h))
      (writes_linkTail brk url title hu0 hu ht)).congr (by simp [Inl.src])
  | .image url title angle cs, brk, _, h, cx, hip, _, _, _ => by
    simp only [Inl.cmOk, Bool.and_eq_true, Bool.not_eq_true', List.isEmpty_eq_false_iff] at h
    obtain ⟨⟨⟨⟨han, hu0⟩, hu⟩, ht⟩, hcs⟩ := h
    subst han
    exact (Writes.node cx (.image url title) {} _ (fun s r => enter_image cx s _ r.good.ce hip url title)
      (fun s r => exit_image cx s url title r.good.ce) (writes_wr brk [0x21, 0x5B] rfl)
      (inls_sim cs brk false false hcs (.image url title) cx.parent false rfl (fun h => by cases h) (fun h => by cases h))
      (writes_linkTail brk url title hu0 hu ht)).congr (by simp [Inl.src])
  | .autolink sc r, brk, _, h, cx, hip, _, _, _ => by
    simp only [Inl.cmOk, Bool.and_eq_true, beq_iff_eq] at h
    obtain ⟨⟨hau, htm⟩, hnf⟩ := h
    -- the writer does not descend into an autolink
    have hw := ((writes_wr brk [0x3C] rfl).comp (writes_wr brk (autolinkUrl sc r) hnf)).comp
      (writes_wr brk [0x3E] rfl)
    intro s rd
    show core (renderT {} cx (.node (.link (autolinkUrl sc r) []) {} (.cons (leaf (.text (autolinkUrl sc r))) .nil)) s) = _
    rw [renderT_eq, enter_autolink cx s _ rd.good.ce hip _ hau, htm]
    simp only [Bool.false_eq_true, if_false]
    exact hw s rd
  | .fnref .., _, _, h, _, _, _, _, _ => by simp [Inl.cmOk] at h
theorem inls_sim : ∀ (is : Inls) (brk inStrong fe : Bool), is.cmOk brk inStrong fe = true →
    ∀ (pv : NodeValue) (gr : Option NodeValue) (hp : Bool),
      inlParent pv = true → (pv = .strong → inStrong = true) → (pv = .emph → hp = false → fe = true) →
      Writes brk (renderF {} (some pv) gr hp is.toForest) is.src
  | .nil, _, _, _, _, _, _, _, _, _, _ => fun _ _ => rfl
  | .cons i r, brk, inStrong, fe, h, pv, gr, hp, hpv, hst, hfe => by
    simp only [Inls.cmOk, Bool.and_eq_true, Bool.not_eq_true', Bool.and_eq_false_iff] at h
    obtain ⟨⟨⟨hfe2, hhard⟩, hi⟩, hr⟩ := h
    have h1 := inl_writes i brk inStrong hi ⟨some pv, gr, hp, nextOf r.toForest⟩ (inlParent_notItem pv hpv)
      (fun e => hst (Option.some.inj e))
      (fun hie => by
        intro ⟨e1, _, e3⟩
        have := hfe (Option.some.inj e1) e3
        rcases hfe2 with h' | h'
        · rw [this] at h'; cases h'
        · rw [hie] at h'; cases h')
      (fun hih => by
        rcases hhard with h' | h'
        · rw [hih] at h'; cases h'
        · cases r with
          | nil => simp [Inls.isNil] at h'
          | cons j r' => exact ⟨j.toTree.value, by simp [Inls.toForest, nextOf], isBlock_inl j⟩)
    intro s rd
    rw [Inls.toForest, renderF_cons]
    exact (h1.comp (inls_sim r brk inStrong false hr pv gr true hpv hst (fun _ h => by cases h))) s rd
end

theorem inl_sim : ∀ (i : Inl) (brk inStrong : Bool), i.cmOk brk inStrong = true →
    ∀ (cx : Ctx) (s : Cm.St) (pv : NodeValue), Good (core s) → (brk = true → s.noLinebreaks = false) →
      cx.parent = some pv → inlParent pv = true → (pv = .strong → inStrong = true) →
      (i.isEmph = true → ¬ (pv = .emph ∧ cx.next = none ∧ cx.hasPrev = false)) →
      (i.isHard = true → ∃ n, cx.next = some n ∧ isBlockV n = false) →
      core (renderT {} cx i.toTree s) = feedA i.src (core s) :=
  fun i brk inStrong h cx s pv g hb hp hpv hst hem hh =>
    inl_writes i brk inStrong h cx (hp ▸ inlParent_notItem pv hpv) (fun e => hst (Option.some.inj (hp ▸ e)))
      (fun hi ⟨e1, e2, e3⟩ => hem hi ⟨Option.some.inj (hp ▸ e1), e2, e3⟩) hh s ⟨g, hb⟩

end Comrak.CmCanon
