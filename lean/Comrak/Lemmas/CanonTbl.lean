/-
C03, tables: the model of comrak's HTML formatter on the `table / table_row / table_cell` subtree a
canonical table spells writes exactly the reference rendering.  The formatter writes the line
breaks between the elements lazily (`cr()` before the next tag); the reference renderer writes
one element per line.  `Lazy` relates the two.
-/
import Comrak.Lemmas.CanonInl
namespace Comrak.Canon
open Comrak Bytes

theorem R_assoc {a b c : W} : (a ⨟ b) ⨟ c = a ⨟ (b ⨟ c) := by
  funext st; simp [W.seq, List.append_assoc]

/-- Started with flag `lf`, `w` writes `crB lf ++ X` without the last byte of `X`, a newline, and
    does not end at the beginning of a line: the `cr` of whatever follows supplies that newline. -/
def Lazy (w : W) (lf : Bool) (X : Bytes) : Prop :=
  ∃ Y, R w lf Y ∧ Y ++ [0x0A] = crB lf ++ X ∧ lastLfAfter lf Y = false

namespace Lazy

theorem nop : Lazy W.nop false [] := ⟨[], R_nop false, rfl, rfl⟩

theorem elem {w : W} {lf : Bool} {e : Bytes} (h : R w lf (crB lf ++ e)) (he : lastLfAfter true e = false) :
    Lazy w lf (e ++ [0x0A]) :=
  ⟨crB lf ++ e, h, List.append_assoc .., lastLfAfter_append_of (v := false) he lf _⟩

theorem seq {a b : W} {lf : Bool} {X Z : Bytes} (ha : Lazy a lf X) (hb : Lazy b false Z) :
    Lazy (a ⨟ b) lf (X ++ Z) := by
  obtain ⟨Ya, ra, ea, la⟩ := ha
  obtain ⟨Yb, rb, eb, lb⟩ := hb
  refine ⟨Ya ++ Yb, R_seq_at ra la rb, ?_, ?_⟩
  · rw [List.append_assoc, eb, ← List.append_assoc (crB lf), ← ea, List.append_assoc]; rfl
  · rw [lastLfAfter_append, la, lb]

theorem andThen {w k : W} {lf : Bool} {X Z : Bytes} (h : Lazy w lf X) (hk : R k false ([0x0A] ++ Z)) :
    R (w ⨟ k) lf (crB lf ++ X ++ Z) := by
  obtain ⟨Y, r, e, l⟩ := h
  exact R_congr (R_seq_at r l hk) (by rw [← List.append_assoc, e])

theorem congr {w : W} {lf : Bool} {X X' : Bytes} (h : Lazy w lf X) (e : X = X') : Lazy w lf X' := e ▸ h

end Lazy

theorem spell_alignAttr (a : Align) : spellAttrs (alignAttr a) = refAlign a := by
  cases a
  · rfl
  all_goals simp only [alignAttr, spelled]; rfl

def cellOpen (hd : Bool) : Bytes := if hd then H.th_open else H.td_open
def cellClose (hd : Bool) : Bytes := if hd then H.th_close else H.td_close

section
variable (al : List Align) (a b c : Nat)

theorem cell_lazy (hd : Bool) (cs : Inls) (hs : cs.safe = true)
    (prev : Option NodeValue) (last : Bool) (i : Nat) (lf : Bool) :
    Lazy (renderT {} {} ⟨some (.tableRow hd), some (.table al a b c), prev, last, i⟩ (.node .tableCell {} cs.toForest)) lf
      (cellOpen hd ++ refAlign (al.getD i .none) ++ H.gt ++ cs.html ++ cellClose hd) := by
  let cx : Ctx := ⟨some (.tableRow hd), some (.table al a b c), prev, last, i⟩
  have he : R (enter {} {} cx .tableCell {} cs.toForest) lf (crB lf ++ (cellOpen hd ++ refAlign (al.getD i .none) ++ H.gt)) :=
    R_congr (R_cr_emit [.op (if hd then S.t_th else S.t_td) (alignAttr (al.getD i .none))] lf) (by
      simp only [spelled, spell_alignAttr]
      cases hd <;> rfl)
  have hl : lastLfAfter true ((cellOpen hd ++ refAlign (al.getD i .none) ++ H.gt) ++ cs.html ++
      spell [.cl (if hd then S.t_th else S.t_td)]) = false :=
    lastLfAfter_append_of (v := false) (by cases hd <;> rfl) _ _
  refine (Lazy.elem (R_congr (R_node rfl he (inls_goal cs hs _ _ _ _ _) (R_emit [.cl (if hd then S.t_th else S.t_td)] _)) ?_) hl).congr ?_
  · simp only [List.append_assoc]
  · cases hd <;> simp only [List.append_assoc] <;> rfl

theorem cells_lazy (hd : Bool) : ∀ (cells : List Inls),
    cells.all Inls.safe = true → ∀ (prev : Option NodeValue) (i : Nat),
    Lazy (renderF {} {} (some (.tableRow hd)) (some (.table al a b c)) prev i (cellsForest cells)) false
      (refCells (cellOpen hd) (cellClose hd) al i cells)
  | [], _, _, _ => by rw [cellsForest, renderF_nil]; exact Lazy.nop
  | cl :: r, h, prev, i => by
    simp only [List.all_cons, Bool.and_eq_true] at h
    rw [cellsForest, renderF_seq, refCells]
    exact (Lazy.seq (cell_lazy al a b c hd cl h.1 _ _ _ _) (cells_lazy hd r h.2 _ _)).congr
      (by simp only [List.append_assoc])

theorem row_lazy (hd : Bool) (cells : List Inls) (hs : cells.all Inls.safe = true)
    (cx : Ctx) (hp : cx.parent = some (.table al a b c)) (lf : Bool) :
    Lazy (renderT {} {} cx (.node (.tableRow hd) {} (cellsForest cells))) lf
      (spell (rowSectionToks hd cx.prev) ++ refRow (cellOpen hd) (cellClose hd) al cells ++
        (if hd then H.thead_close else [])) := by
  have he : Lazy ((W.cr ⨟ W.emit (rowSectionToks hd cx.prev)) ⨟ W.emit [.op S.t_tr []]) lf
      ((spell (rowSectionToks hd cx.prev) ++ spell [.op S.t_tr []]) ++ [0x0A]) :=
    Lazy.elem (R_congr (R_seq (R_cr_emit _ lf) (R_emit _ _)) (List.append_assoc ..))
      (lastLfAfter_append_of (v := false) rfl _ _)
  have hc := cells_lazy al a b c hd cells hs none 0
  have htr : Lazy (W.cr ⨟ W.emit [.cl S.t_tr]) false H.tr_close :=
    Lazy.elem (R_cr_emit _ false) rfl
  have hth : Lazy (if hd then W.cr ⨟ W.emit [.cl S.t_thead] else W.nop) false (if hd then H.thead_close else []) := by
    cases hd
    · exact Lazy.nop
    · exact Lazy.elem (R_cr_emit _ false) rfl
  rw [renderT_html rfl, hp]
  exact (Lazy.seq (Lazy.seq he hc) (Lazy.seq htr hth)).congr (by simp only [refRow, List.append_assoc]; rfl)

/-- The body rows; `first`: the previous sibling is the header row, so `<tbody>` comes first. -/
theorem rows_lazy (g : Option NodeValue) : ∀ (rows : List (List Inls)),
    rows.all (fun r => r.all Inls.safe) = true → ∀ (first : Bool) (idx : Nat),
    Lazy (renderF {} {} (some (.table al a b c)) g (some (.tableRow first)) idx (rowsForest rows)) false
      ((if first && !rows.isEmpty then H.tbody_open else []) ++ refRows al rows)
  | [], _, _, _ => by
    rw [rowsForest, renderF_nil, List.isEmpty_nil, Bool.not_true, Bool.and_false]
    exact Lazy.nop
  | r :: rs, h, first, idx => by
    simp only [List.all_cons, Bool.and_eq_true] at h
    rw [rowsForest, renderF_seq]
    refine (Lazy.seq (row_lazy al a b c false r h.1 _ rfl false) (rows_lazy g rs h.2 false _)).congr ?_
    cases first <;> simp only [refRows, List.append_assoc] <;> rfl

end

theorem table_goal (al : List Align) (h : List Inls) (rows : List (List Inls))
    (hh : h.all Inls.safe = true) (hr : rows.all (fun r => r.all Inls.safe) = true) (cx : Ctx) (lf : Bool) :
    R (renderT {} {} cx (Blk.table al h rows).toTree) lf (crB lf ++ refTable al h rows) := by
  have he : R (W.cr ⨟ W.emit [.op S.t_table [], nl]) lf (crB lf ++ H.table_open) := R_cr_emit _ lf
  have hc := Lazy.seq
    (row_lazy al h.length rows.length (bodyCells rows) true h hh ⟨_, cx.parent, none, (rowsForest rows).isNil, 0⟩ rfl true)
    (rows_lazy al h.length rows.length (bodyCells rows) cx.parent rows hr true 1)
  -- `exit` starts with a `cr`: it pays the newline the rows leave open
  have hx : R (exit {} cx (.table al h.length rows.length (bodyCells rows))
      (.cons (.node (.tableRow true) {} (cellsForest h)) (rowsForest rows))) false
      ([0x0A] ++ ((if rows.isEmpty then [] else H.tbody_close) ++ H.table_close)) := by
    cases rows with
    | nil => exact R_seq (R_seq (R_nop _) (R_cr false)) (R_emit [.cl S.t_table, nl] _)
    | cons r rs =>
      exact R_congr (R_seq (R_seq_at (R_cr_emit [.cl S.t_tbody, nl] false) (b := W.cr) rfl (R_cr true))
        (R_emit [.cl S.t_table, nl] _)) rfl
  rw [Blk.toTree, renderT_html rfl, R_assoc]
  refine R_congr (R_seq_at he (lastLfAfter_append_of (v := true) rfl _ _) (hc.andThen hx)) ?_
  cases rows <;>
    simp only [refTable, refRows, List.isEmpty_nil, List.isEmpty_cons, Bool.not_true, Bool.not_false, Bool.and_true,
      Bool.and_false, Bool.false_eq_true, if_true, if_false, List.append_assoc, List.append_nil] <;> rfl

end Comrak.Canon
