/-
Lemmas for C01.  `shortest_unused_sequence` is described bit by bit: bit `j` of the scan result says that a run
of length `j` occurs (`testBit_suScan`), and the loop returns the lowest clear bit or its cap (`suLoop_spec`);
`shortestUnused_spec` puts the two together.  The rest are step facts of the entity arithmetic and of the body of
`normalize_code`.
-/
import Comrak.Total
namespace Comrak.Tot
open Comrak Bytes

theorem suLoop_add (k used i : Nat) : suLoop k used i = i + suLoop k used 0 := by
  induction k generalizing used i with
  | zero => rfl
  | succ k ih =>
    simp only [suLoop]
    split
    · rw [ih _ (i + 1), ih _ 1]; omega
    · rfl

theorem suLoop_spec (k used : Nat) :
    suLoop k used 0 ≤ k ∧ (∀ j, j < suLoop k used 0 → used.testBit j = true) ∧
    (suLoop k used 0 < k → used.testBit (suLoop k used 0) = false) := by
  induction k generalizing used with
  | zero => simp [suLoop]
  | succ k ih =>
    simp only [suLoop]
    split
    · rename_i h
      have ⟨hle, h1, h2⟩ := ih (used / 2)
      rw [suLoop_add]
      refine ⟨by omega, fun j hj => ?_, fun hlt => ?_⟩
      · cases j with
        | zero => simp [Nat.testBit, h]
        | succ j => rw [Nat.testBit_succ]; exact h1 j (by omega)
      · rw [Nat.add_comm, Nat.testBit_succ]; exact h2 (by omega)
    · rename_i h
      refine ⟨Nat.zero_le _, fun j hj => absurd hj (Nat.not_lt_zero j), fun _ => ?_⟩
      have : used % 2 = 0 := by omega
      simp [Nat.testBit, this]

theorem testBit_suMark (cur used j : Nat) :
    (suMark cur used).testBit j = (used.testBit j || (decide (j = cur) && decide (0 < j ∧ j < 32))) := by
  unfold suMark
  split
  · rename_i h
    rw [Nat.testBit_or, Nat.one_shiftLeft, Nat.testBit_two_pow]
    by_cases hj : j = cur
    · subst hj; simp [h]
    · simp [hj, Ne.symm hj]
  · rename_i h
    by_cases hj : j = cur
    · subst hj; simp [h]
    · simp [hj]

theorem testBit_suScan (f : UInt8) (l : Bytes) (cur used j : Nat) :
    (suScan f l cur used).testBit j = (used.testBit j || (decide (j ∈ runsAux f l cur) && decide (0 < j ∧ j < 32))) := by
  induction l generalizing cur used with
  | nil =>
    simp only [suScan, runsAux]
    by_cases hc : 0 < cur
    · simp [testBit_suMark, hc]
    · have : cur = 0 := by omega
      subst this; simp [suMark]
  | cons c r ih =>
    simp only [suScan, runsAux]
    split
    · exact ih (cur + 1) used
    · by_cases hc : 0 < cur
      · rw [ih, testBit_suMark]
        simp [hc, Bool.or_assoc, Bool.and_or_distrib_right]
      · have : cur = 0 := by omega
        subst this; simp [suMark, ih]

theorem testBit_scan (f : UInt8) (l : Bytes) (j : Nat) :
    (suScan f l 0 1).testBit j = (decide (j = 0) || (decide (j ∈ runs f l) && decide (0 < j ∧ j < 32))) := by
  rw [testBit_suScan]
  congr 1
  cases j <;> simp [Nat.testBit_succ]

theorem shortestUnused_spec (l : Bytes) (f : UInt8) :
    1 ≤ shortestUnused l f ∧ shortestUnused l f ≤ 32 ∧
    (∀ j, 0 < j → j < shortestUnused l f → j ∈ runs f l) ∧
    (shortestUnused l f < 32 → shortestUnused l f ∉ runs f l) := by
  have ⟨hle, hlow, hstop⟩ := suLoop_spec 32 (suScan f l 0 1)
  unfold shortestUnused
  generalize suLoop 32 (suScan f l 0 1) 0 = n at hle hlow hstop ⊢
  simp only [testBit_scan] at hlow hstop
  have hpos : 1 ≤ n := by
    cases n with
    | zero => simp at hstop
    | succ n => omega
  refine ⟨hpos, hle, fun j hj0 hj => ?_, fun hlt hm => ?_⟩
  · have := hlow j hj
    simp [Nat.ne_of_gt hj0] at this
    exact this.1
  · have := hstop hlt
    simp [hm] at this
    omega

theorem spxTotal_cons (s : Seg) (q : List Seg) : spxTotal (s :: q) = s.x + spxTotal q := by
  simp [spxTotal]

theorem cpStep_bound (base cp d : Nat) (hb : base ≤ 16) (hd : d < base) (hc : cp ≤ 0x110000) :
    ∃ r, cpStep base cp d = some r ∧ r ≤ 0x110000 := by
  unfold cpStep
  have h1 : cp * base ≤ 0x110000 * 16 := Nat.mul_le_mul hc hb
  have : cp * base + d < 2 ^ 32 := by omega
  simp only [this, if_true]
  exact ⟨_, rfl, Nat.min_le_right _ _⟩

theorem decval_lt (c : UInt8) (h : isAsciiDigit c = true) : decval c < 10 := by
  simp only [isAsciiDigit, Bool.and_eq_true, decide_eq_true_eq, UInt8.le_iff_toNat_le, UInt8.toNat_ofNat,
    Nat.reducePow, Nat.reduceMod] at h
  unfold decval
  omega

theorem ncBody_ne_nil (v : Bytes) (h : v ≠ []) : ncBody v ≠ [] := by
  induction v with
  | nil => exact absurd rfl h
  | cons c r ih =>
    simp only [ncBody]
    split
    · cases r with
      | nil => simp
      | cons d t =>
        simp only []
        split
        · exact ih (by simp)
        · simp
    · split <;> simp

theorem ncBody_mem (v : Bytes) (c : UInt8) (hc : c ∈ v) (hn : isCodeSpace c = false) : c ∈ ncBody v := by
  induction v with
  | nil => simp at hc
  | cons a r ih =>
    have hn' : c ≠ 0x20 ∧ c ≠ 0x0D ∧ c ≠ 0x0A := by
      simp [isCodeSpace] at hn; exact ⟨hn.1.1, hn.1.2, hn.2⟩
    simp only [ncBody]
    rcases List.mem_cons.mp hc with rfl | hr
    · simp [hn'.2.1, hn'.2.2]
    · have := ih hr
      split
      · cases r with
        | nil => simp at hr
        | cons d t => dsimp only; split <;> simp [this]
      · split <;> simp [this]

end Comrak.Tot
