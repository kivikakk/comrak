/-
C03, inline level: the model of comrak's HTML formatter on the tree of canonical inline content
spells exactly the reference rendering, from any writer state.
-/
import Comrak.Lemmas.CanonW
import Comrak.Lemmas.Escape
import Comrak.Canon.Safe
namespace Comrak.Canon
open Comrak Bytes

theorem refEscByte_eq (b : UInt8) : refEscByte b = escByte b := by
  unfold refEscByte escByte
  by_cases h1 : b = 0x3C
  · subst h1; rfl
  by_cases h2 : b = 0x3E
  · subst h2; rfl
  by_cases h3 : b = 0x26
  · subst h3; rfl
  by_cases h4 : b = 0x22
  · subst h4; rfl
  simp only [h1, h2, h3, h4, if_false]

theorem refEsc_eq (s : Bytes) : refEsc s = escape s := by
  rw [refEsc, escape, funext refEscByte_eq]

/-- The same set, the three ranges listed in another order. -/
theorem refUrlSafe_eq (b : UInt8) : refUrlSafe b = hrefSafe b := by
  simp only [refUrlSafe, hrefSafe, isAsciiAlnum, isAsciiAlpha, isAsciiDigit, List.contains_cons, List.contains_nil,
    Bool.or_false, Bool.or_assoc]
  rw [Bool.or_left_comm (decide (48 ≤ b) && _) (decide (65 ≤ b) && _),
    Bool.or_left_comm (decide (48 ≤ b) && _) (decide (97 ≤ b) && _)]

theorem upHex_eq (n : UInt8) : upHex n = hexDigit n := by
  unfold upHex hexDigit
  split
  · rfl
  · rw [UInt8.sub_eq_add_neg, UInt8.add_comm n, ← UInt8.add_assoc]; rfl

/-- comrak writes `'` as `&#x27;`, the reference renderer percent-encodes it. -/
theorem refUrlByte_eq (b : UInt8) (h : b ≠ 0x27) : refUrlByte b = hrefByte b := by
  unfold refUrlByte hrefByte pctByte
  rw [refUrlSafe_eq, if_neg h, upHex_eq, upHex_eq]
  rfl

theorem refUrl_eq (s : Bytes) (h : s.all (fun b => b != 0x27) = true) : refUrl s = escapeHref s := by
  induction s with
  | nil => rfl
  | cons b r ih =>
    simp only [List.all_cons, Bool.and_eq_true, bne_iff_ne] at h
    rw [refUrl, List.flatMap_cons, escapeHref_cons, refUrlByte_eq b h.1, ← ih h.2, refUrl]

theorem urlSafe_href {url : Bytes} (h : urlSafe url = true) :
    spellVal (urlVal {} url) = refUrl url := by
  simp only [urlSafe, Bool.and_eq_true, Bool.not_eq_true'] at h
  simp only [urlVal, h.2, Bool.false_or, Bool.not_false, if_true, refUrl_eq url h.1]
  exact List.append_nil _

theorem escapeHref_id (s : Bytes) (h : ∀ b ∈ s, hrefSafe b = true) : escapeHref s = s := by
  induction s with
  | nil => rfl
  | cons b r ih =>
    rw [escapeHref_cons, hrefByte_safe b (h b List.mem_cons_self), ih (fun c hc => h c (List.mem_cons_of_mem _ hc))]
    rfl

theorem hrefSafe_of_alnum {b : UInt8} (h : isAsciiAlnum b = true) : hrefSafe b = true := by
  unfold hrefSafe; rw [h]; rfl

theorem escapeHref_dec (n : Nat) : escapeHref (ofNatDec n) = ofNatDec n :=
  escapeHref_id _ (fun b hb => hrefSafe_of_alnum (by rw [isAsciiAlnum, ofNatDec_digits n b hb, Bool.or_true]))

theorem escapeHref_name (s : Bytes) (h : s.all isAsciiAlnum = true) : escapeHref s = s :=
  escapeHref_id _ (fun b hb => hrefSafe_of_alnum (List.all_eq_true.mp h b hb))

theorem escapeHref_append (a b : Bytes) : escapeHref (a ++ b) = escapeHref a ++ escapeHref b :=
  Comrak.escapeHref_append a b

theorem escapeHref_suffix (n : Nat) : escapeHref (fnSuffix n) = fnSuffix n := by
  unfold fnSuffix
  split
  · rw [escapeHref_append, escapeHref_dec]; rfl
  · rfl

mutual
theorem plainT_toTree : ∀ i : Inl, plainT i.toTree = i.plain := by
  intro i
  cases i with
  | text | code => exact List.append_nil _
  | emph _ cs | strong _ cs | strike cs | link _ _ _ _ cs | image _ _ _ cs => exact plainF_toForest cs
  | autolink => exact (List.append_nil _).trans (List.append_nil _)
  | hard | soft | fnref => rfl
theorem plainF_toForest : ∀ is : Inls, plainF is.toForest = is.plain
  | .nil => rfl
  | .cons i r => by rw [Inls.toForest, plainF, plainT_toTree i, plainF_toForest r, Inls.plain]
end

/-- The optional `title` attribute between the closing quote of the attribute before it and the
    end `e` of the tag; the reference renderer groups the quote with what follows. -/
theorem spell_title (title e : Bytes) :
    0x22 :: (spellAttrs (if title.isEmpty then [] else [⟨S.a_title, some [.esc title]⟩]) ++ e) =
      refTitle title ++ 0x22 :: e := by
  unfold refTitle
  split
  · rfl
  · simp only [spelled, refEsc_eq]; rfl

/-- `sfx` is the `-N` of a repeated reference. -/
theorem spell_fnref (name sfx dec : Bytes) (hn : escapeHref name = name) (hs : escapeHref sfx = sfx) :
    spell [.op S.t_sup [litAttr S.a_class S.v_footnote_ref],
        .op S.t_a [⟨S.a_href, some [.lit S.v_hfn, .href name]⟩, ⟨S.a_id, some [.href (S.v_fnref ++ name ++ sfx)]⟩,
          ⟨S.a_data_footnote_ref, none⟩],
        .lit dec, .cl S.t_a, .cl S.t_sup] =
      H.fnref_open ++ name ++ H.fnref_id ++ name ++ sfx ++ H.fnref_mid ++ dec ++ H.fnref_close := by
  have h1 : escapeHref (S.v_fnref ++ (name ++ sfx)) = S.v_fnref ++ (name ++ sfx) := by
    rw [escapeHref_append, escapeHref_append, hn, hs]; rfl
  simp only [spelled, h1, hn]
  rfl

theorem enter_image (cx : Ctx) (sp : Sp) (cs : Forest) (lf : Bool) (url title : Bytes) (h : urlSafe url = true) :
    R (enter {} {} cx (.image url title) sp cs) lf
      (H.img_src ++ refUrl url ++ H.alt_attr ++ refEsc (plainF cs) ++ refTitle title ++ H.img_end) := by
  refine R_congr (R_emit _ lf) ?_
  simp only [Bool.false_eq_true, if_false, spelled, urlSafe_href h, spell_title, refEsc_eq]
  rfl

def InlGoal (i : Inl) : Prop := ∀ (cx : Ctx) (lf : Bool), R (renderT {} {} cx i.toTree) lf i.html
def InlsGoal (is : Inls) : Prop :=
  ∀ (p g prev : Option NodeValue) (idx : Nat) (lf : Bool), R (renderF {} {} p g prev idx is.toForest) lf is.html

theorem leaf_text (s : Bytes) (cx : Ctx) (lf : Bool) : R (renderT {} {} cx (leaf (.text s))) lf (refEsc s) :=
  R_leaf (R_congr (R_emit [.txt s] lf) (by rw [refEsc_eq]; exact List.append_nil _)) rfl rfl

theorem link_node (url title : Bytes) (h : urlSafe url = true) (cs : Forest) (b : Bytes) (cx : Ctx) (lf : Bool)
    (hc : ∀ l, R (renderF {} {} (some (.link url title)) cx.parent none 0 cs) l b) :
    R (renderT {} {} cx (.node (.link url title) {} cs)) lf
      (H.a_href ++ refUrl url ++ refTitle title ++ H.q_gt ++ b ++ H.a_close) := by
  have he : R (enter {} {} cx (.link url title) {} cs) lf (H.a_href ++ refUrl url ++ refTitle title ++ H.q_gt) := by
    refine R_congr (R_emit _ lf) ?_
    simp only [spelled, urlSafe_href h, spell_title]
    rfl
  exact R_node rfl he (hc _) (R_emit [.cl S.t_a] _)

mutual
theorem inl_goal : ∀ i : Inl, i.safe = true → InlGoal i := by
  intro i h cx lf
  cases i with
  | text as => exact leaf_text _ cx lf
  | code n s =>
    exact R_leaf (R_congr (R_emit [.op S.t_code [], .txt s, .cl S.t_code] lf) (by simp only [Inl.html, spelled, refEsc_eq]; rfl))
      rfl rfl
  | emph us cs => exact R_node rfl (R_emit [.op S.t_em []] lf) (inls_goal cs h _ _ _ _ _) (R_emit [.cl S.t_em] _)
  | strong us cs => exact R_node rfl (R_emit [.op S.t_strong []] lf) (inls_goal cs h _ _ _ _ _) (R_emit [.cl S.t_strong] _)
  | strike cs => exact R_node rfl (R_emit [.op S.t_del []] lf) (inls_goal cs h _ _ _ _ _) (R_emit [.cl S.t_del] _)
  | link url title a sp cs =>
    simp only [Inl.safe, Bool.and_eq_true] at h
    exact link_node url title h.1 cs.toForest cs.html cx lf (inls_goal cs h.2 _ _ _ _)
  | image url title a cs =>
    -- the description is rendered in plain mode, inside the `alt` attribute
    simp only [Inl.safe, Bool.and_eq_true] at h
    exact R_congr (R_leaf (enter_image cx {} cs.toForest lf url title h.1) rfl rfl) (by rw [plainF_toForest]; rfl)
  | autolink s r =>
    refine R_congr (link_node _ [] h _ (refEsc (autolinkUrl s r)) cx lf fun l => ?_) ?_
    · rw [renderF_seq, renderF_nil]
      exact R_congr (R_seq (leaf_text _ _ _) (R_nop _)) (List.append_nil _)
    · simp only [Inl.html, refTitle, List.isEmpty_nil, if_true, List.append_nil]
  | hard b => exact R_leaf (R_emit [.vd S.t_br [], nl] lf) rfl rfl
  | soft => exact R_leaf (R_emit [nl] lf) rfl rfl
  | fnref name rn ix =>
    exact R_leaf (R_congr (R_emit _ lf)
      (spell_fnref name (fnSuffix rn) (ofNatDec ix) (escapeHref_name name h) (escapeHref_suffix rn))) rfl rfl
theorem inls_goal : ∀ is : Inls, is.safe = true → InlsGoal is
  | .nil, _ => fun p g prev idx lf => by
    rw [Inls.toForest, renderF_nil]; exact R_nop lf
  | .cons i r, h => fun p g prev idx lf => by
    simp only [Inls.safe, Bool.and_eq_true] at h
    rw [Inls.toForest, renderF_seq, Inls.html]
    exact R_seq (inl_goal i h.1 _ _) (inls_goal r h.2 _ _ _ _ _)
end

end Comrak.Canon
