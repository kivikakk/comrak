/-
Tree-level balance of the HTML renderer, against the flagged tag stack `runO` of the byte oracle:
the tag events of a shape-respecting subtree do on every stack what a short net effect does (nothing;
the footnote `<section><ol>` when the first definition is entered; `<thead>..</thead>` or `<tbody>`
for table rows).  `<thead>` / `<tbody>` are only written by table rows, rows sit directly under their
table with the header row first (`balShapeT`), so each section is opened directly under `<table>` and
at most once per table.  Balance on the plain name stack follows by forgetting the flags.
-/
import Comrak.Lemmas.HtmlTree
import Comrak.Lemmas.HtmlTagStack
import Comrak.Lemmas.HtmlTagNames
namespace Comrak
open Bytes

theorem noTS_eq : noTS = namesOk (fun n => !isTS n) fun _ => true := by
  funext t; cases t <;> rfl

theorem namesOk_noTS : NamesOk (fun n => !isTS n) fun _ => true :=
  ⟨by decide, fun level => by simp [isTS, headingName, S.t_h, S.t_thead, S.t_tbody], rfl⟩

theorem enter_noTS (o : HtmlOpts) (nt : NormTable) (cx : Ctx) (v : NodeValue) (sp : Sp) (cs : Forest) (st : St)
    (hr : isRow v = false) : (enter o nt cx v sp cs st).1.all noTS = true := by
  rw [noTS_eq]
  exact enter_namesOk namesOk_noTS o nt cx v sp cs st (fun _ => by decide) (fun h => by rw [hr] at h; cases h)

theorem exit_noTS (o : HtmlOpts) (cx : Ctx) (v : NodeValue) (cs : Forest) (st : St) :
    (exit o cx v cs st).1.all noTS = true := by
  rw [noTS_eq]
  exact exit_namesOk namesOk_noTS o cx v cs st

theorem enter_openedO (o : HtmlOpts) (nt : NormTable) (cx : Ctx) (v : NodeValue) (sp : Sp) (cs : Forest)
    (st : St) (hr : isRow v = false) (K : List Open) :
    runO K (events (enter o nt cx v sp cs st).1) = some ((opened o cx st v).map mkO ++ K) := by
  have h := enter_opened o nt cx v sp cs st []
  simp only [List.append_nil] at h
  exact runO_opens _ (events_noTS _ (enter_noTS o nt cx v sp cs st hr)) _ h K

theorem exit_closingO (o : HtmlOpts) (cx : Ctx) (v : NodeValue) (cs : Forest) (st : St)
    (P : List Open) (hP : P.map Open.name = closing o cx v cs) (K : List Open) :
    runO (P ++ K) (events (exit o cx v cs st).1) = some K := by
  have h := exit_closing o cx v cs st []
  simp only [List.append_nil] at h
  exact runO_closes _ (events_noTS _ (exit_noTS o cx v cs st)) P (by rw [hP]; exact h) K

theorem events_rowSectionToks (h : Bool) (prev : Option NodeValue) :
    events (rowSectionToks h prev) = (rowSectionNames h prev).map Ev.op := by
  unfold rowSectionToks rowSectionNames
  split
  · simp [Tok.events, nl]
  · split <;> simp [Tok.events, nl]

theorem events_enter_row (o : HtmlOpts) (nt : NormTable) (cx : Ctx) (h : Bool) (sp : Sp) (cs : Forest) (st : St) :
    events (enter o nt cx (.tableRow h) sp cs st).1 = (rowSectionNames h cx.prev).map Ev.op ++ [.op S.t_tr] := by
  simp [enter, events_rowSectionToks, Tok.events]

theorem events_exit_row (o : HtmlOpts) (cx : Ctx) (h : Bool) (cs : Forest) (st : St) :
    events (exit o cx (.tableRow h) cs st).1 = .cl S.t_tr :: (if h then [.cl S.t_thead] else []) := by
  cases h <;> simp [exit, Tok.events]

/-- The footnote `<section><ol>` is opened between two values of `fnIx`. -/
def secOpen (a b : Nat) : List Ev := if a = 0 ∧ b ≠ 0 then [.op S.t_section, .op S.t_ol] else []

theorem secOpen_same (a : Nat) : secOpen a a = [] := by
  unfold secOpen; split <;> simp_all

theorem secOpen_eq {a b : Nat} (h : b = a) : secOpen a b = [] := by rw [h, secOpen_same]

theorem secOpen_trans {a b c : Nat} (h1 : a ≤ b) (h2 : b ≤ c) : secOpen a b ++ secOpen b c = secOpen a c := by
  unfold secOpen
  by_cases ha : a = 0 <;> by_cases hb : b = 0 <;> by_cases hc : c = 0 <;> simp_all <;> omega

def rowNet (h : Bool) (prev : Option NodeValue) : List Ev :=
  if h then [.op S.t_thead, .cl S.t_thead] else (rowSectionNames false prev).map Ev.op

def TGoalO (o : HtmlOpts) (nt : NormTable) (cx : Ctx) (t : Tree) : Prop :=
  ∀ (st : St),
    (isRow t.value = false →
      RefO (events (renderT o nt cx t st).1) (secOpen st.fnIx (renderT o nt cx t st).2.fnIx)) ∧
    (isRow t.value = true →
      RefO (events (renderT o nt cx t st).1) (rowNet (rowHeader t.value) cx.prev))

def FGoalO (o : HtmlOpts) (nt : NormTable) (parent grand prev : Option NodeValue) (idx : Nat) (f : Forest) : Prop :=
  ∀ (st : St),
    (isTable parent = false →
      RefO (events (renderF o nt parent grand prev idx f st).1)
        (secOpen st.fnIx (renderF o nt parent grand prev idx f st).2.fnIx)) ∧
    (restRows f = true → prev = some (.tableRow false) →
      RefO (events (renderF o nt parent grand prev idx f st).1) []) ∧
    (restRows f = true → prev = some (.tableRow true) →
      RefO (events (renderF o nt parent grand prev idx f st).1) (if f.isNil then [] else [.op S.t_tbody])) ∧
    (rowsOk f = true →
      RefO (events (renderF o nt parent grand prev idx f st).1)
        ([.op S.t_thead, .cl S.t_thead] ++ if f.length ≠ 1 then [.op S.t_tbody] else []))

theorem node_otherO (o : HtmlOpts) (nt : NormTable) (cx : Ctx) (v : NodeValue) (sp : Sp) (cs : Forest) (st st2 : St)
    (cE : List Ev) (hr : isRow v = false) (hd : isDef v = false) (htb : isTable (some v) = false)
    (hc : RefO cE []) (K : List Open) :
    runO K (events (enter o nt cx v sp cs st).1 ++ cE ++ events (exit o cx v cs st2).1) = some K := by
  refine runO3 (enter_openedO o nt cx v sp cs st hr K) (hc.nil_keeps _) ?_
  refine exit_closingO o cx v cs st2 _ ?_ K
  rw [map_name_mkO, closing_other o cx v cs hd hr htb, ← opened_indep o cx st v hd]

/-- A footnote definition around children that keep every stack: the first one opens the section,
    every one its `<li>`. -/
theorem node_defO (o : HtmlOpts) (nt : NormTable) (cx : Ctx) {v : NodeValue} (sp : Sp) (cs : Forest) (st st2 : St)
    (cE : List Ev) (hr : isRow v = false) (hd : isDef v = true) (hc : RefO cE []) (hpos : st2.fnIx ≠ 0) :
    RefO (events (enter o nt cx v sp cs st).1 ++ cE ++ events (exit o cx v cs st2).1) (secOpen st.fnIx st2.fnIx) := by
  have E := fun K => enter_openedO o nt cx v sp cs st hr K
  have X := fun K => exit_closingO o cx v cs st2 [mkO S.t_li] (by simp [closing_def o cx cs hd]) K
  rw [opened_def o cx st hd] at E
  intro K Q hq
  by_cases h0 : st.fnIx = 0
  · have hQ : Q = mkO S.t_ol :: mkO S.t_section :: K := by
      simp [secOpen, h0, hpos, runO_cons, stepO] at hq
      exact hq.symm
    subst hQ
    refine runO3 (E K) (hc.nil_keeps _) ?_
    simpa [h0] using X (mkO S.t_ol :: mkO S.t_section :: K)
  · have hQ : Q = K := by
      simp [secOpen, h0] at hq
      exact hq.symm
    subst hQ
    refine runO3 (E Q) (hc.nil_keeps _) ?_
    simpa [h0] using X Q

/-- A table around rows that write the header section and leave `<tbody>` open if there is a body row: the
    table closes it. -/
theorem node_tableO (o : HtmlOpts) (nt : NormTable) (cx : Ctx) {v : NodeValue} (sp : Sp) (cs : Forest) (st st2 : St)
    (cE : List Ev) (hr : isRow v = false) (htb : isTable (some v) = true)
    (hc : RefO cE ([.op S.t_thead, .cl S.t_thead] ++ if cs.length ≠ 1 then [.op S.t_tbody] else []))
    (K : List Open) :
    runO K (events (enter o nt cx v sp cs st).1 ++ cE ++ events (exit o cx v cs st2).1) = some K := by
  have E := enter_openedO o nt cx v sp cs st hr K
  rw [opened_table o cx st htb] at E
  have hcl := closing_table o cx cs htb
  by_cases hl : cs.length ≠ 1
  · have M := hc (mkO S.t_table :: K) (mkO S.t_tbody :: ⟨S.t_table, true, true⟩ :: K)
      (by simp [hl, runO_cons, mkO, stepO_thead, stepO_tbody, stepO_cl])
    refine runO3 E M ?_
    exact exit_closingO o cx v cs _ [mkO S.t_tbody, ⟨S.t_table, true, true⟩] (by simp [hcl, hl]) K
  · have M := hc (mkO S.t_table :: K) (⟨S.t_table, true, false⟩ :: K)
      (by simp [hl, runO_cons, mkO, stepO_thead, stepO_cl])
    refine runO3 E M ?_
    exact exit_closingO o cx v cs _ [⟨S.t_table, true, false⟩] (by simp [hcl, hl]) K

/-- A table row around cells that keep every stack. -/
theorem node_rowO (o : HtmlOpts) (nt : NormTable) (cx : Ctx) (h : Bool) (sp : Sp) (cs : Forest) (st st2 : St)
    (cE : List Ev) (hc : RefO cE []) :
    RefO (events (enter o nt cx (.tableRow h) sp cs st).1 ++ cE ++ events (exit o cx (.tableRow h) cs st2).1)
      (rowNet h cx.prev) := by
  rw [events_enter_row, events_exit_row]
  intro K Q hq
  cases h
  · simp only [rowNet, Bool.false_eq_true, if_false] at hq ⊢
    have e1 : runO K (List.map Ev.op (rowSectionNames false cx.prev) ++ [Ev.op S.t_tr]) = some (mkO S.t_tr :: Q) := by
      rw [runO_append_some _ hq]; simp [runO_cons, stepO_op_plain]
    refine runO3 e1 (hc.nil_keeps _) ?_
    rw [runO_cl_mkO]; rfl
  · have hq' : runO K ([.op S.t_thead] ++ [.cl S.t_thead]) = some Q := by simpa [rowNet] using hq
    obtain ⟨M, hM1, hM2⟩ := runO_append_inv hq'
    have e1 : runO K (List.map Ev.op (rowSectionNames true cx.prev) ++ [Ev.op S.t_tr]) = some (mkO S.t_tr :: M) := by
      have : List.map Ev.op (rowSectionNames true cx.prev) = [.op S.t_thead] := by simp [rowSectionNames]
      rw [this, runO_append_some _ hM1]; simp [runO_cons, stepO_op_plain]
    refine runO3 e1 (hc.nil_keeps _) ?_
    rw [if_pos rfl, runO_cl_mkO]; exact hM2

theorem node_stepO (o : HtmlOpts) (nt : NormTable) (cx : Ctx) (v : NodeValue) (sp : Sp) (cs : Forest)
    (ht : tableOk v cs = true) (hs : balShapeF (some v) cs = true)
    (hF : FGoalO o nt (some v) cx.parent none 0 cs) : TGoalO o nt cx (.node v sp cs) := by
  intro st
  rw [renderT_node]
  simp only [Tree.value, events_append, exit_fnIx]
  have Hfn1 := enter_fnIx o nt cx v sp cs st
  by_cases hc : htmlChildren v = true
  · simp only [hc, if_true]
    have HF := hF (enter o nt cx v sp cs st).2
    have hfnF := renderF_fnIx o nt cs (some v) cx.parent none 0 (enter o nt cx v sp cs st).2
    -- below anything but the document or a definition the children leave `fnIx` alone
    have hkeep := fun h => hfnF.2 hs rfl h
    rw [isDocOrDef_some] at hkeep
    refine ⟨fun hnr => ?_, fun hr => ?_⟩
    · by_cases hdoc : isDoc v = true
      · -- document: no tags of its own
        cases eq_document_of_isDoc hdoc
        simpa [enter, exit] using HF.1 rfl
      · have hdoc' : isDoc v = false := by simpa using hdoc
        by_cases hdef : isDef v = true
        · have h1 : (enter o nt cx v sp cs st).2.fnIx = st.fnIx + 1 := by simp [Hfn1, hdef]
          have c0 := HF.1 (not_isTable_of_isDef hdef)
          rw [show secOpen (enter o nt cx v sp cs st).2.fnIx
              (renderF o nt (some v) cx.parent none 0 cs (enter o nt cx v sp cs st).2).2.fnIx = [] by
            unfold secOpen; rw [h1]; simp] at c0
          exact node_defO o nt cx sp cs st _ _ hnr hdef c0 (by have := hfnF.1; omega)
        · have hdef' : isDef v = false := by simpa using hdef
          have hfn : (enter o nt cx v sp cs st).2.fnIx = st.fnIx := by simp [Hfn1, hdef']
          have G2 := hkeep (by simp [hdoc', hdef'])
          rw [G2, hfn, secOpen_same]
          by_cases htb : isTable (some v) = true
          · exact RefO.of_keeps (node_tableO o nt cx sp cs st _ _ hnr htb (HF.2.2.2 (rowsOk_of_tableOk ht htb)))
          · have htb' : isTable (some v) = false := by simpa using htb
            have c0 := HF.1 htb'
            rw [G2, secOpen_same] at c0
            exact RefO.of_keeps (node_otherO o nt cx v sp cs st _ _ hnr hdef' htb' c0)
    · rw [eq_tableRow_of_isRow hr] at HF hkeep ⊢
      have c0 := HF.1 rfl
      rw [hkeep rfl, secOpen_same] at c0
      exact node_rowO o nt cx _ sp cs st _ _ c0
  · -- children rendered in Plain mode (image): no tag events from them
    have hc' : htmlChildren v = false := by simpa using hc
    obtain ⟨hd1, hd2, hd3, htb⟩ := htmlChildren_of v hc'
    simp only [hc', Bool.false_eq_true, if_false]
    refine ⟨fun _ => ?_, by simp [hd3]⟩
    have hfn : (enter o nt cx v sp cs st).2.fnIx = st.fnIx := by simp [Hfn1, hd2]
    rw [hfn, secOpen_same]
    exact RefO.of_keeps (node_otherO o nt cx v sp cs st _ _ hd3 hd2 htb (RefO.refl _))

theorem forest_stepO (o : HtmlOpts) (nt : NormTable) (parent grand prev : Option NodeValue) (idx : Nat)
    (t : Tree) (ts : Forest)
    (hp : placeOk parent t.value = true)
    (hT : TGoalO o nt { parent := parent, grand := grand, prev := prev, isLast := ts.isNil, index := idx } t)
    (hF : FGoalO o nt parent grand (some t.value) (idx + 1) ts) :
    FGoalO o nt parent grand prev idx (.cons t ts) := by
  intro st
  rw [renderF_cons]
  simp only [events_append]
  have HT := hT st
  have HF := hF (renderT o nt { parent := parent, grand := grand, prev := prev, isLast := ts.isNil, index := idx } t st).2
  refine ⟨?_, ?_, ?_, ?_⟩
  · -- parent is not a table: no rows among the children
    intro htb
    have hnr : isRow t.value = false := by
      cases h : isRow t.value
      · rfl
      · rw [(placeOk_class hp).1 h] at htb; cases htb
    have := RefO.append (HT.1 hnr) (HF.1 htb)
    rwa [secOpen_trans (renderT_fnIx o nt t _ st).1 (renderF_fnIx o nt ts parent grand (some t.value) (idx + 1) _).1] at this
  · -- body rows after a body row
    intro hrest hprev
    cases t with
    | node w sp cs =>
      obtain ⟨rfl, hrest⟩ := restRows_cons hrest
      have := RefO.append (HT.2 rfl) (HF.2.1 hrest rfl)
      simpa [rowNet, rowHeader, Tree.value, hprev, rowSectionNames] using this
  · -- body rows after the header row: the first opens `<tbody>`
    intro hrest hprev
    cases t with
    | node w sp cs =>
      obtain ⟨rfl, hrest⟩ := restRows_cons hrest
      have := RefO.append (HT.2 rfl) (HF.2.1 hrest rfl)
      simpa [rowNet, rowHeader, Tree.value, hprev, rowSectionNames, Forest.isNil] using this
  · -- header row, then body rows
    intro hrows
    cases t with
    | node w sp cs =>
      obtain ⟨rfl, hrest⟩ := rowsOk_cons hrows
      have := RefO.append (HT.2 rfl) (HF.2.2.1 hrest rfl)
      cases ts <;> simpa [rowNet, rowHeader, Tree.value, Forest.isNil, Forest.length] using this

theorem forest_nilO (o : HtmlOpts) (nt : NormTable) (parent grand prev : Option NodeValue) (idx : Nat) :
    FGoalO o nt parent grand prev idx .nil := by
  intro st
  simp [renderF, secOpen_same, rowsOk, Forest.isNil, RefO.refl]

mutual
theorem renderT_goalO (o : HtmlOpts) (nt : NormTable) :
    ∀ (t : Tree) (cx : Ctx), balShapeT cx.parent t = true → TGoalO o nt cx t
  | .node v sp cs, cx, h => by
    simp only [balShapeT, Bool.and_eq_true] at h
    exact node_stepO o nt cx v sp cs h.1.2 h.2 (renderF_goalO o nt cs (some v) cx.parent none 0 h.2)
theorem renderF_goalO (o : HtmlOpts) (nt : NormTable) :
    ∀ (f : Forest) (parent grand prev : Option NodeValue) (idx : Nat),
      balShapeF parent f = true → FGoalO o nt parent grand prev idx f
  | .nil, parent, grand, prev, idx, _ => forest_nilO o nt parent grand prev idx
  | .cons t ts, parent, grand, prev, idx, h => by
    simp only [balShapeF, Bool.and_eq_true] at h
    have hp : placeOk parent t.value = true := by
      cases t with
      | node v sp cs => simp only [balShapeT, Bool.and_eq_true] at h; exact h.1.1.1
    exact forest_stepO o nt parent grand prev idx t ts hp
      (renderT_goalO o nt t { parent := parent, grand := grand, prev := prev, isLast := ts.isNil, index := idx } h.1)
      (renderF_goalO o nt ts parent grand (some t.value) (idx + 1) h.2)
end

/-- The rendered document passes the flagged tag-stack machine (`C10.html_table_sections`). -/
theorem renderToks_runO (o : HtmlOpts) (nt : NormTable) (t : Tree) (h : balShapeT none t = true) :
    runO [] (events (renderToks o nt t)) = some [] := by
  have hnr : isRow t.value = false := by
    cases t with
    | node v sp cs =>
      simp only [balShapeT, Bool.and_eq_true] at h
      cases hr : isRow v
      · exact hr
      · cases (placeOk_class h.1.1).1 hr
  have hT := renderT_goalO o nt t {} h ({} : St)
  have R := RefO.append (hT.1 hnr) (RefO.refl (events (finish (renderT o nt {} t {}).2).1))
  unfold renderToks
  simp only [W.seq_fst, events_append]
  apply R
  have h0 : ({} : St).fnIx = 0 := rfl
  rw [h0]
  unfold finish secOpen
  by_cases k : (renderT o nt {} t {}).2.fnIx = 0
  · simp [k]
  · have k' : (renderT o nt {} t {}).2.fnIx > 0 := by omega
    simp [k, k', Tok.events, nl, runO_cons, stepO]

/-- Net stack effect of a table's rows: `tbody` if a body row follows the header row. -/
def rowsEff (prev : Option NodeValue) : Forest → List Bytes
  | .nil => []
  | .cons t ts => rowsEff (some t.value) ts ++ rowSectionNames' prev t.value
where rowSectionNames' (prev : Option NodeValue) (v : NodeValue) : List Bytes :=
  if rowHeader v then [] else rowSectionNames false prev

theorem rowsEff_restRows (f : Forest) (h : restRows f = true) : rowsEff (some (.tableRow false)) f = [] := by
  induction f using Forest.rec (motive_1 := fun _ => True) with
  | node => trivial
  | nil => rfl
  | cons t ts _ ih =>
    cases t with
    | node w sp cs =>
      obtain ⟨rfl, hr⟩ := restRows_cons h
      simp [rowsEff, rowsEff.rowSectionNames', rowHeader, rowSectionNames, Tree.value, ih hr]

theorem rowsEff_rowsOk (f : Forest) (h : rowsOk f = true) :
    rowsEff none f = if f.length ≠ 1 then [S.t_tbody] else [] := by
  cases f with
  | nil => simp [rowsOk] at h
  | cons t ts =>
    cases t with
    | node v sp cs =>
      obtain ⟨rfl, hr⟩ := rowsOk_cons h
      cases ts with
      | nil => simp [rowsEff, rowsEff.rowSectionNames', rowHeader, Forest.length, Tree.value]
      | cons t2 ts2 =>
        cases t2 with
        | node w sp2 cs2 =>
          obtain ⟨rfl, hr2⟩ := restRows_cons hr
          simp [rowsEff, rowsEff.rowSectionNames', rowHeader, rowSectionNames, Tree.value, Forest.length,
            rowsEff_restRows _ hr2]

end Comrak
