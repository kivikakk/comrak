/-
C02 helper lemmas: `escape_href` and the dangerous-scheme test.  The scheme patterns consist of lower-case letters,
`:` and `/`, which `escape_href` copies; what it substitutes starts with `&` or `%`, which no pattern byte matches.
-/
import Comrak.Url
import Comrak.Lemmas.Escape
namespace Comrak
open Bytes

/-- Lower-case letters, `:` and `/`: the bytes of the scheme patterns. -/
def plainPatByte (c : UInt8) : Bool := (0x61 ≤ c && c ≤ 0x7A) || c == 0x3A || c == 0x2F

def plainPat (p : Bytes) : Bool := p.all plainPatByte

theorem hrefByte_head (b : UInt8) (h : hrefSafe b = false) :
    ∃ c t, hrefByte b = c :: t ∧ (c = 0x26 ∨ c = 0x25) := by
  unfold hrefByte
  simp only [h, Bool.false_eq_true, if_false]
  split
  · exact ⟨0x26, _, rfl, Or.inl rfl⟩
  · split
    · exact ⟨0x26, _, rfl, Or.inl rfl⟩
    · exact ⟨0x25, _, rfl, Or.inr rfl⟩

theorem hrefSafe_of_plain_lower : ∀ b : UInt8, plainPatByte (toLowerAscii b) = true → hrefSafe b = true :=
  forall_uint8_of_fin (by decide +kernel)

/-- `f` stands for `escape_href` and for `escape_href` followed by entity decoding (where `&#x27;` has become `'`):
    it copies the bytes `escape_href` copies and puts something starting with `&`, `'` or `%` in place of every other. -/
theorem isPrefixCI_of_heads (f : Bytes → Bytes) (hnil : f [] = [])
    (hcopy : ∀ b r, hrefSafe b = true → f (b :: r) = b :: f r)
    (hesc : ∀ b r, hrefSafe b = false → ∃ c t, f (b :: r) = c :: t ∧ (c = 0x26 ∨ c = 0x27 ∨ c = 0x25))
    (p : Bytes) (hp : plainPat p = true) (u : Bytes) : isPrefixCI p (f u) = isPrefixCI p u := by
  induction p generalizing u with
  | nil => simp [isPrefixCI]
  | cons a p ih =>
    simp only [plainPat, List.all_cons, Bool.and_eq_true] at hp
    cases u with
    | nil => rw [hnil]
    | cons b r =>
      by_cases hs : hrefSafe b = true
      · simp only [hcopy b r hs, isPrefixCI, ih hp.2]
      · -- the pattern byte matches neither the first byte of the substitute nor the byte it replaces
        obtain ⟨c, t, e, hc⟩ := hesc b r (by simpa using hs)
        have hb : (a == toLowerAscii b) = false :=
          beq_eq_false_iff_ne.mpr fun heq => hs (hrefSafe_of_plain_lower b (heq ▸ hp.1))
        have hc' : (a == toLowerAscii c) = false := beq_eq_false_iff_ne.mpr fun heq => by
          subst heq
          rcases hc with rfl | rfl | rfl <;> exact absurd hp.1 (by decide)
        simp only [e, isPrefixCI, hb, hc', Bool.false_and]

theorem dangerousUrl_of_heads (f : Bytes → Bytes) (hnil : f [] = [])
    (hcopy : ∀ b r, hrefSafe b = true → f (b :: r) = b :: f r)
    (hesc : ∀ b r, hrefSafe b = false → ∃ c t, f (b :: r) = c :: t ∧ (c = 0x26 ∨ c = 0x27 ∨ c = 0x25))
    (u : Bytes) : dangerousUrl (f u) = dangerousUrl u := by
  unfold dangerousUrl
  repeat rw [isPrefixCI_of_heads f hnil hcopy hesc _ (by decide)]

theorem dangerousUrl_escapeHref (u : Bytes) : dangerousUrl (escapeHref u) = dangerousUrl u := by
  refine dangerousUrl_of_heads escapeHref rfl (fun b r h => ?_) (fun b r h => ?_) u
  · rw [escapeHref_cons, hrefByte_safe b h]; rfl
  · obtain ⟨c, t, e, hc⟩ := hrefByte_head b h
    exact ⟨c, t ++ escapeHref r, by rw [escapeHref_cons, e]; rfl, by rcases hc with rfl | rfl <;> simp⟩

end Comrak
