/-
C02 helper lemmas: every token that `enter` and `exit` write in safe mode for a `nodeSafe` node is in `allowedTok`
(one pass over the node kinds each); whole trees follow by the induction of Lemmas/HtmlTagNames.
-/
import Comrak.Lemmas.HtmlSafe
import Comrak.Lemmas.HtmlTagNames
namespace Comrak
open Bytes

theorem enter_allowed (o : HtmlOpts) (hu : o.unsafe_ = false) (hp : ∀ p, o.headerIds = some p → litSafe p = true)
    (nt : NormTable) (hn : NormSafe nt) (cx : Ctx) (v : NodeValue) (sp : Sp) (cs : Forest) (st : St)
    (hv : nodeSafe v = true) :
    (enter o nt cx v sp cs st).1.all allowedTok = true := by
  cases v <;> dsimp only [enter]
  -- the kinds whose tokens are safe only under the hypotheses
  case raw s => simp [nodeSafe] at hv
  case escapedTag s => simpa [allowedTok, nodeSafe] using hv
  case htmlBlock bt l => simp [all_htmlBlockToks o hu]
  case htmlInline l => simp [all_htmlInlineToks o hu]
  case heading level setext =>
    simp only [nodeSafe, Bool.and_eq_true, decide_eq_true_eq] at hv
    have hh := headingName_mem level hv.1 hv.2
    cases h : o.headerIds with
    | none => simp [allowedTok, hh]
    | some p => simp [allowedTok, hh, attrOk, partOk, litAttr, litSafe_append, anchorize_safe nt hn, hp p h]
  all_goals clear hu hp hn hv
  case list l => cases l.ty <;> simp [allowedTok, attrOk, partOk, litAttr, nl, all_ite]
  case math dollar display lit => cases dollar <;> simp [allowedTok, attrOk, partOk, all_ite]
  case alert ty title m fl fo => cases title <;> simp [allowedTok, attrOk, partOk, litAttr, nl]
  all_goals simp [W.all_ite, all_ite, allowedTok, attrOk, partOk, litAttr, nl]

theorem mem_putBackref (name : Bytes) (total : Nat) (st : St) (a : Tok)
    (h : a ∈ (putBackref name total st).1.1) : allowedTok a = true :=
  List.all_eq_true.mp (all_putBackref name total st) a h

theorem exit_allowed (o : HtmlOpts) (cx : Ctx) (v : NodeValue) (cs : Forest) (st : St)
    (hv : nodeSafe v = true) :
    (exit o cx v cs st).1.all allowedTok = true := by
  cases v <;> dsimp only [exit]
  case heading level setext =>
    simp only [nodeSafe, Bool.and_eq_true, decide_eq_true_eq] at hv
    simp [allowedTok, nl, headingName_mem level hv.1 hv.2]
  case escapedTag s => simpa [allowedTok, nodeSafe] using hv
  all_goals clear hv
  case paragraph =>
    split
    · rfl
    · -- only the last paragraph of a footnote definition writes more than `</p>`: the back references
      split <;> simp [W.all_ite, allowedTok, nl]
  case footnoteDefinition name total => simp [W.all_ite, allowedTok, nl]
  case list l => cases l.ty <;> simp [allowedTok, nl]
  all_goals simp [W.all_ite, all_ite, allowedTok, nl]

mutual
def treeSafe : Tree → Bool
  | .node v _ cs => nodeSafe v && forestSafe cs
def forestSafe : Forest → Bool
  | .nil => true
  | .cons t ts => treeSafe t && forestSafe ts
end

theorem treeSafe_node (v : NodeValue) (sp : Sp) (cs : Forest) (h : treeSafe (.node v sp cs) = true) :
    nodeSafe v = true ∧ forestSafe cs = true := by
  simpa only [treeSafe, Bool.and_eq_true] using h

theorem forestSafe_cons (t : Tree) (ts : Forest) (h : forestSafe (.cons t ts) = true) :
    treeSafe t = true ∧ forestSafe ts = true := by
  simpa only [forestSafe, Bool.and_eq_true] using h

theorem renderT_allowed (o : HtmlOpts) (hu : o.unsafe_ = false) (hp : ∀ p, o.headerIds = some p → litSafe p = true)
    (nt : NormTable) (hn : NormSafe nt) :
    ∀ (t : Tree) (cx : Ctx) (st : St), treeSafe t = true → (renderT o nt cx t st).1.all allowedTok = true :=
  renderT_all treeSafe_node forestSafe_cons (enter_allowed o hu hp nt hn) (exit_allowed o)

theorem renderF_allowed (o : HtmlOpts) (hu : o.unsafe_ = false) (hp : ∀ p, o.headerIds = some p → litSafe p = true)
    (nt : NormTable) (hn : NormSafe nt) :
    ∀ (f : Forest) (parent grand prev : Option NodeValue) (idx : Nat) (st : St),
      forestSafe f = true → (renderF o nt parent grand prev idx f st).1.all allowedTok = true :=
  renderF_all treeSafe_node forestSafe_cons (enter_allowed o hu hp nt hn) (exit_allowed o)

/-- Every token written in safe mode is `allowedTok` (the statement of `C02.html_safe`; C10 uses it too). -/
theorem renderToks_allowed (o : HtmlOpts) (hu : o.unsafe_ = false)
    (hp : ∀ p, o.headerIds = some p → litSafe p = true)
    (nt : NormTable) (hn : NormSafe nt) (t : Tree) (ht : treeSafe t = true) :
    (renderToks o nt t).all allowedTok = true :=
  renderToks_all (T := (treeSafe · = true)) treeSafe_node forestSafe_cons (enter_allowed o hu hp nt hn) (exit_allowed o)
    (by decide) t ht

end Comrak
