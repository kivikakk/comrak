/-
The byte-level lexer `lexHtml` inverts the spelling of comrak's own safe markup:
`lex_spell : ts.all allowedTok = true → lexHtml (spell ts) = some (toL ts)`.
Every lexer state that collects bytes (text, the three kinds of names, attribute values, comment bodies) is
handled by one lemma, `lexLoop_absorb`; what the bytes must avoid comes from `valueSafe` (escaped text, escaped
URLs, harmless literals) and from the fixed vocabularies, whose names are lexable by enumeration.
-/
import Comrak.HtmlSafe
import Comrak.Lemmas.HtmlSafe
import Comrak.Lemmas.Escape
namespace Comrak
open Bytes

def valueHead (b : UInt8) (r : Bytes) : Bool :=
  if b = 0x26 then
    isPrefixB entQuot (b :: r) || isPrefixB entAmp (b :: r) || isPrefixB entLt (b :: r) ||
    isPrefixB entGt (b :: r) || isPrefixB entApos' (b :: r)
  else !(b == 0x22 || b == 0x3C || b == 0x3E)

theorem valueSafe_cons (b : UInt8) (r : Bytes) : valueSafe (b :: r) = (valueHead b r && valueSafe r) := rfl

theorem valueSafe_of_heads (q : Bytes → Bool)
    (step : ∀ b r, q (b :: r) = true → valueHead b r = true ∧ q r = true) :
    ∀ x, q x = true → valueSafe x = true
  | [], _ => rfl
  | b :: r, h => by
    rw [valueSafe_cons, (step b r h).1, valueSafe_of_heads q step r (step b r h).2]; rfl

theorem valueHead_append (b : UInt8) (r y : Bytes) (h : valueHead b r = true) : valueHead b (r ++ y) = true := by
  unfold valueHead at h ⊢
  split
  · rename_i hb
    have mono := fun p hp => isPrefixB_append p (b :: r) y hp
    simp only [if_pos hb, Bool.or_eq_true] at h ⊢
    exact h.imp (Or.imp (Or.imp (Or.imp (mono _) (mono _)) (mono _)) (mono _)) (mono _)
  · rename_i hb; rwa [if_neg hb] at h

theorem valueSafe_append (x y : Bytes) (hx : valueSafe x = true) (hy : valueSafe y = true) :
    valueSafe (x ++ y) = true := by
  induction x with
  | nil => exact hy
  | cons b r ih =>
    simp only [valueSafe_cons, List.cons_append, Bool.and_eq_true] at hx ⊢
    exact ⟨valueHead_append b r y hx.1, ih hx.2⟩

theorem valueSafe_of_noActive (x : Bytes) (h : noActive x = true) : valueSafe x = true :=
  valueSafe_of_heads noActive (fun b r h => by
    simp only [noActive, Bool.and_eq_true] at h
    refine ⟨?_, h.2⟩
    have h1 := h.1
    unfold valueHead
    split <;> rename_i hb
    · rw [if_pos hb] at h1; rw [h1]; rfl
    · rwa [if_neg hb] at h1) x h

theorem hrefSafe_facts (b : UInt8) (h : hrefSafe b = true) : b ≠ 0x22 ∧ b ≠ 0x3C ∧ b ≠ 0x3E := by
  refine ⟨?_, ?_, ?_⟩ <;> rintro rfl <;> exact absurd h (by decide)

theorem valueSafe_of_hrefAlphabet (x : Bytes) (h : hrefAlphabet x = true) : valueSafe x = true :=
  valueSafe_of_heads hrefAlphabet (fun b r h => by
    simp only [hrefAlphabet, Bool.and_eq_true, Bool.or_eq_true, beq_iff_eq] at h
    refine ⟨?_, h.2⟩
    unfold valueHead
    rcases h.1 with hs | ⟨hb, hp⟩
    · obtain ⟨f2, f3, f4⟩ := hrefSafe_facts b hs
      simp [hrefSafe_ne_amp b hs, f2, f3, f4]
    · rw [if_pos hb, Bool.or_eq_true, Bool.or_eq_true, Bool.or_eq_true, Bool.or_eq_true]
      exact hp.elim (fun h => Or.inl (Or.inl (Or.inl (Or.inr h)))) Or.inr) x h

theorem valueSafe_of_litSafe (x : Bytes) (h : litSafe x = true) : valueSafe x = true :=
  valueSafe_of_heads litSafe (fun b r h => by
    simp only [litSafe_cons, Bool.and_eq_true, Bool.not_eq_true', Bool.or_eq_false_iff, beq_eq_false_iff_ne] at h
    obtain ⟨⟨⟨f1, f2⟩, f3⟩, f4⟩ := h.1
    exact ⟨by simp [valueHead, f1, f2, f3, f4], h.2⟩) x h

theorem valueSafe_escape (v : Bytes) : valueSafe (escape v) = true :=
  valueSafe_of_noActive _ (escape_noActive v)

theorem valueSafe_part (p : APart) (h : partOk p = true) : valueSafe p.spell = true := by
  cases p with
  | esc v => exact valueSafe_escape v
  | href v => exact valueSafe_of_hrefAlphabet _ (escapeHref_hrefAlphabet v)
  | lit v => exact valueSafe_of_litSafe v (by simpa [partOk] using h)

theorem valueSafe_spellVal (ps : List APart) (h : ps.all partOk = true) : valueSafe (spellVal ps) = true := by
  induction ps with
  | nil => rfl
  | cons p r ih =>
    simp only [List.all_cons, Bool.and_eq_true] at h
    simp only [spellVal, List.flatMap_cons]
    exact valueSafe_append _ _ (valueSafe_part p h.1) (ih h.2)

def nameOk (p q : UInt8 → Bool) : Bytes → Bool
  | [] => false
  | c :: r => p c && r.all q

def tagNameOk : Bytes → Bool := nameOk isAsciiAlpha tagNameChar

def attrNameOk : Bytes → Bool := nameOk attrNameChar attrNameChar

theorem tagNameOk_of_vocab (n : Bytes) (h : tagVocab.contains n = true) : tagNameOk n = true :=
  List.all_eq_true.mp (by decide : tagVocab.all tagNameOk = true) n (by simpa using h)

theorem attrNameOk_of_vocab (n : Bytes) (h : attrVocab.contains n = true) : attrNameOk n = true :=
  List.all_eq_true.mp (by decide : attrVocab.all attrNameOk = true) n (by simpa using h)

theorem lexLoop_append (st : LexSt) (out : List LTok) (a b : Bytes) :
    lexLoop st out (a ++ b) = lexLoop (lexLoop st out a).1 (lexLoop st out a).2 b := by
  induction a generalizing st out with
  | nil => simp [lexLoop]
  | cons c r ih => simp only [List.cons_append, lexLoop]; exact ih _ _

theorem lexLoop_append_eq {st st' : LexSt} {out out' : List LTok} {a : Bytes} (b : Bytes)
    (h : lexLoop st out a = (st', out')) : lexLoop st out (a ++ b) = lexLoop st' out' b := by
  rw [lexLoop_append, h]

theorem lexLoop_cons (st : LexSt) (out : List LTok) (c : UInt8) (r : Bytes) :
    lexLoop st out (c :: r) = lexLoop (lexStep st out c).1 (lexStep st out c).2 r := rfl

theorem lexLoop_nil (st : LexSt) (out : List LTok) : lexLoop st out [] = (st, out) := rfl

theorem alpha_facts (c : UInt8) (h : isAsciiAlpha c = true) : tagNameChar c = true ∧ c ≠ 0x2F ∧ c ≠ 0x21 := by
  refine ⟨by simp only [tagNameChar, isAsciiAlnum, h, Bool.true_or], ?_, ?_⟩ <;> rintro rfl <;>
    exact absurd h (by decide)

theorem tagNameChar_facts (c : UInt8) (h : tagNameChar c = true) : c ≠ 0x3E ∧ c ≠ 0x20 := by
  refine ⟨?_, ?_⟩ <;> rintro rfl <;> exact absurd h (by decide)

theorem attrNameChar_facts (c : UInt8) (h : attrNameChar c = true) :
    c ≠ 0x2F ∧ c ≠ 0x3D ∧ c ≠ 0x20 ∧ c ≠ 0x3E := by
  refine ⟨?_, ?_, ?_, ?_⟩ <;> rintro rfl <;> exact absurd h (by decide)

theorem lexLoop_absorb (f : Bytes → LexSt) (p : UInt8 → Prop)
    (step : ∀ acc out c, p c → lexStep (f acc) out c = (f (c :: acc), out))
    (bs acc : Bytes) (out : List LTok) (h : ∀ c ∈ bs, p c) :
    lexLoop (f acc) out bs = (f (bs.reverse ++ acc), out) := by
  induction bs generalizing acc with
  | nil => rfl
  | cons c r ih =>
    rw [lexLoop_cons, step acc out c (h c List.mem_cons_self), ih _ fun d hd => h d (List.mem_cons_of_mem _ hd)]
    simp

theorem lex_text_valueSafe (bs acc : Bytes) (out : List LTok) (h : valueSafe bs = true) :
    lexLoop (.text acc) out bs = (.text (bs.reverse ++ acc), out) :=
  lexLoop_absorb .text (fun c => c ≠ 0x3C ∧ c ≠ 0x3E) (fun acc out c hc => by simp [lexStep, hc.1, hc.2])
    bs acc out fun c hc => ⟨fun e => not_mem_of_valueSafe c (.inr (.inl e)) bs h hc,
      fun e => not_mem_of_valueSafe c (.inr (.inr e)) bs h hc⟩

/-- A name read in a family of states `S acc` (`acc` the reversed name so far) that is entered from `E` by a first
    byte and kept by the other bytes: the three places where the lexer meets a name are instances. -/
theorem lex_nameOk (E : LexSt) (S : Bytes → LexSt) {p q : UInt8 → Bool} (out : List LTok) (n : Bytes)
    (h : nameOk p q n = true)
    (start : ∀ c, p c = true → lexStep E out c = (S [c], out))
    (step : ∀ acc out c, q c = true → lexStep (S acc) out c = (S (c :: acc), out)) :
    lexLoop E out n = (S n.reverse, out) := by
  cases n with
  | nil => cases h
  | cons c r =>
    simp only [nameOk, Bool.and_eq_true] at h
    rw [lexLoop_cons, start c h.1, lexLoop_absorb S _ step r [c] out (List.all_eq_true.mp h.2)]
    simp

theorem lex_name (n : Bytes) (out : List LTok) (h : tagNameOk n = true) :
    lexLoop .lt out n = (.name n.reverse, out) :=
  lex_nameOk .lt .name out n h
    (fun c hc => by
      obtain ⟨_, h2, h3⟩ := alpha_facts c hc
      simp [lexStep, h2, h3, hc])
    (fun acc out c hc => by simp [lexStep, hc])

theorem lex_attrName (n : Bytes) (as : List (Bytes × Option Bytes)) (an : Bytes) (out : List LTok)
    (h : attrNameOk an = true) :
    lexLoop (.attrs n as) out an = (.attrName n as an.reverse, out) :=
  lex_nameOk (.attrs n as) (.attrName n as) out an h
    (fun c hc => by simp [lexStep, (attrNameChar_facts c hc).1, hc])
    (fun acc out c hc => by simp [lexStep, hc])

/-- Image of a model attribute: name and spelled (still escaped) value. -/
def lattr (a : Attr) : Bytes × Option Bytes := (a.name, a.val.map spellVal)

/-- A lexer state inside the start tag of `n` from which a space continues with the attributes
    `as` read so far and `>` ends the tag: after the name, after a quoted value, after a bare
    attribute name. -/
def TagReady (s : LexSt) (n : Bytes) (as : List (Bytes × Option Bytes)) : Prop :=
  (∀ out, lexStep s out 0x20 = (.attrs n as, out)) ∧
  (∀ out, lexStep s out 0x3E = (.text [], .op n as :: out))

theorem tagReady_name (n : Bytes) : TagReady (.name n.reverse) n [] := by
  have h1 : tagNameChar 0x20 = false := by decide
  have h2 : tagNameChar 0x3E = false := by decide
  constructor <;> intro out <;> simp [lexStep, h1, h2]

theorem tagReady_afterValue (n : Bytes) (as : List (Bytes × Option Bytes)) : TagReady (.afterValue n as) n as := by
  constructor <;> intro out <;> simp [lexStep]

theorem tagReady_attrName (n : Bytes) (as : List (Bytes × Option Bytes)) (an : Bytes) :
    TagReady (.attrName n as an.reverse) n (as ++ [(an, none)]) := by
  have h1 : attrNameChar 0x20 = false := by decide
  have h2 : attrNameChar 0x3E = false := by decide
  constructor <;> intro out <;> simp [lexStep, h1, h2]

theorem lex_attr (s : LexSt) (n : Bytes) (as : List (Bytes × Option Bytes)) (a : Attr)
    (hr : TagReady s n as) (ha : attrOk a = true) :
    ∃ s', (∀ out, lexLoop s out a.spell = (s', out)) ∧ TagReady s' n (as ++ [lattr a]) := by
  obtain ⟨name, val⟩ := a
  simp only [attrOk, Bool.and_eq_true] at ha
  have hn := attrNameOk_of_vocab name ha.1
  cases val with
  | none =>
    refine ⟨.attrName n as name.reverse, fun out => ?_, tagReady_attrName n as name⟩
    simp only [Attr.spell, List.cons_append, List.nil_append, lexLoop_cons, hr.1]
    exact lex_attrName n as name out hn
  | some ps =>
    have hv := valueSafe_spellVal ps ha.2
    refine ⟨.afterValue n (as ++ [(name, some (spellVal ps))]), fun out => ?_, tagReady_afterValue _ _⟩
    have heqc : attrNameChar 0x3D = false := by decide
    simp only [Attr.spell, List.cons_append, List.nil_append, List.append_assoc, lexLoop_cons, hr.1]
    rw [lexLoop_append_eq _ (lex_attrName n as name out hn)]
    have h1 : lexStep (.attrName n as name.reverse) out 0x3D = (.afterEq n as name, out) := by
      simp [lexStep, heqc]
    have h2 : lexStep (.afterEq n as name) out 0x22 = (.value n as name [], out) := by simp [lexStep]
    simp only [lexLoop_cons, h1, h2]
    have h3 := lexLoop_absorb (.value n as name) (· ≠ 0x22) (fun acc out c hc => by simp [lexStep, hc])
      (spellVal ps) [] out fun c hc e => not_mem_of_valueSafe c (.inl e) _ hv hc
    rw [lexLoop_append_eq _ h3]
    simp [lexLoop, lexStep]

theorem lex_attrs (n : Bytes) (l : List Attr) (s : LexSt) (as : List (Bytes × Option Bytes))
    (hr : TagReady s n as) (h : l.all attrOk = true) :
    ∃ s', (∀ out, lexLoop s out (spellAttrs l) = (s', out)) ∧ TagReady s' n (as ++ l.map lattr) := by
  induction l generalizing s as with
  | nil => exact ⟨s, fun out => rfl, by simpa using hr⟩
  | cons a r ih =>
    simp only [List.all_cons, Bool.and_eq_true] at h
    obtain ⟨s1, e1, r1⟩ := lex_attr s n as a hr h.1
    obtain ⟨s2, e2, r2⟩ := ih s1 _ r1 h.2
    refine ⟨s2, fun out => ?_, by simpa using r2⟩
    have : spellAttrs (a :: r) = a.spell ++ spellAttrs r := by simp [spellAttrs]
    rw [this, lexLoop_append_eq _ (e1 out), e2]

theorem lex_lt (acc : Bytes) (out : List LTok) (rest : Bytes) :
    lexLoop (.text acc) out (0x3C :: rest) = lexLoop .lt (flushText acc out) rest := by
  rw [lexLoop_cons]; simp [lexStep]

/-- A tag with attributes: `close` is `>` or ` />`, read from any state that is ready for them. -/
theorem lex_tag (n : Bytes) (l : List Attr) (acc : Bytes) (out : List LTok) (close : Bytes) (t : LTok)
    (hn : tagNameOk n = true) (h : l.all attrOk = true)
    (hclose : ∀ s o, TagReady s n (l.map lattr) → lexLoop s o close = (.text [], t :: o)) :
    lexLoop (.text acc) out ([0x3C] ++ n ++ spellAttrs l ++ close) = (.text [], t :: flushText acc out) := by
  obtain ⟨s', e, r⟩ := lex_attrs n l (.name n.reverse) [] (tagReady_name n) h
  rw [List.nil_append] at r
  simp only [List.cons_append, List.nil_append, lex_lt]
  rw [List.append_assoc, lexLoop_append_eq _ (lex_name n _ hn), lexLoop_append_eq _ (e _)]
  exact hclose s' _ r

theorem lex_op (n : Bytes) (l : List Attr) (acc : Bytes) (out : List LTok)
    (hn : tagNameOk n = true) (h : l.all attrOk = true) :
    lexLoop (.text acc) out (Tok.spell (.op n l)) = (.text [], .op n (l.map lattr) :: flushText acc out) :=
  lex_tag n l acc out [0x3E] _ hn h fun s o r => by simp only [lexLoop_cons, r.2, lexLoop_nil]

theorem lex_vd (n : Bytes) (l : List Attr) (acc : Bytes) (out : List LTok)
    (hn : tagNameOk n = true) (h : l.all attrOk = true) :
    lexLoop (.text acc) out (Tok.spell (.vd n l)) = (.text [], .vd n (l.map lattr) :: flushText acc out) :=
  lex_tag n l acc out S.v_voidend _ hn h fun s o r => by
    have s1 : lexStep (.attrs n (l.map lattr)) o 0x2F = (.slash n (l.map lattr), o) := rfl
    have s2 : lexStep (.slash n (l.map lattr)) o 0x3E = (.text [], .vd n (l.map lattr) :: o) := rfl
    simp only [S.v_voidend, lexLoop_cons, r.1, s1, s2, lexLoop_nil]

theorem lex_cl (n : Bytes) (acc : Bytes) (out : List LTok) (hn : tagNameOk n = true) :
    lexLoop (.text acc) out (Tok.spell (.cl n)) = (.text [], .cl n :: flushText acc out) := by
  have h1 : ∀ o, lexStep .lt o 0x2F = (.closeName [], o) := fun _ => rfl
  have h2 : ∀ o, lexLoop (.closeName []) o n = (.closeName n.reverse, o) := fun o =>
    lex_nameOk (.closeName []) .closeName o n hn
      (fun c hc => by
        have hc := (alpha_facts c hc).1
        simp [lexStep, hc, (tagNameChar_facts c hc).1])
      (fun acc out c hc => by simp [lexStep, hc, (tagNameChar_facts c hc).1])
  have h3 : ∀ o, lexStep (.closeName n.reverse) o 0x3E = (.text [], .cl n :: o) := by
    cases n with
    | nil => cases hn
    | cons c r => simp [lexStep]
  simp only [Tok.spell, List.cons_append, List.nil_append, lex_lt]
  rw [lexLoop_cons, h1, lexLoop_append_eq _ (h2 _), lexLoop_cons, h3, lexLoop_nil]

theorem lex_comment (body : Bytes) (out : List LTok) (h : ∀ c ∈ body, c ≠ 0x2D) :
    lexLoop .lt out ([0x21, 0x2D, 0x2D] ++ body ++ [0x2D, 0x2D, 0x3E]) = (.text [], .cmt body :: out) := by
  have hb : lexLoop (.comment [] 0) out body = (.comment (body.reverse ++ []) 0, out) :=
    lexLoop_absorb (.comment · 0) _ (fun acc out c hc => by simp [lexStep, hc]) body [] out h
  have h1 : lexStep .lt out 0x21 = (.bang 0, out) := rfl
  have h2 : lexStep (.bang 0) out 0x2D = (.bang 1, out) := rfl
  have h3 : lexStep (.bang 1) out 0x2D = (.comment [] 0, out) := rfl
  rw [List.append_assoc]
  simp only [List.cons_append, List.nil_append, lexLoop_cons]
  rw [h1, h2, h3, lexLoop_append_eq _ hb]
  simp [lexLoop, lexStep]

theorem lex_cmt (acc : Bytes) (out : List LTok) :
    lexLoop (.text acc) out (Tok.spell .cmt) = (.text [], .cmt omittedBody :: flushText acc out) :=
  (lex_lt acc out _).trans (lex_comment omittedBody _ (by decide))

/-- Pending text (forward order) as a lexed token, if any. -/
def textL (w : Bytes) : List LTok := if w.isEmpty then [] else [.text w]

theorem flushText_eq (acc : Bytes) (out : List LTok) : flushText acc out = (textL acc.reverse).reverse ++ out := by
  unfold flushText textL
  cases acc <;> simp

/-- The lexed image of a token list, given the text `pre` pending before it: text-like tokens
    (`txt` spelled escaped, `lit`, `raw`) merge with their neighbours into one `LTok.text`
    (empty text vanishes); tags keep their names, attribute values are the spelled values;
    the placeholder comment becomes `LTok.cmt` of its body. -/
def toLAux (pre : Bytes) : List Tok → List LTok
  | [] => textL pre
  | .txt v :: r => toLAux (pre ++ escape v) r
  | .lit v :: r => toLAux (pre ++ v) r
  | .raw v :: r => toLAux (pre ++ v) r
  | .op n as :: r => textL pre ++ .op n (as.map lattr) :: toLAux [] r
  | .cl n :: r => textL pre ++ .cl n :: toLAux [] r
  | .vd n as :: r => textL pre ++ .vd n (as.map lattr) :: toLAux [] r
  | .cmt :: r => textL pre ++ .cmt omittedBody :: toLAux [] r

def toL (ts : List Tok) : List LTok := toLAux [] ts

def lexDone : LexSt × List LTok → Option (List LTok)
  | (.text acc, out) => some (flushText acc out).reverse
  | _ => none

theorem lexHtml_eq (bs : Bytes) : lexHtml bs = lexDone (lexLoop (.text []) [] bs) := by
  unfold lexHtml lexDone
  split <;> simp_all

theorem lex_toks (ts : List Tok) (acc : Bytes) (out : List LTok) (h : ts.all allowedTok = true) :
    lexDone (lexLoop (.text acc) out (spell ts)) = some (out.reverse ++ toLAux acc.reverse ts) := by
  induction ts generalizing acc out with
  | nil => simp [spell, lexLoop, lexDone, toLAux, flushText_eq]
  | cons t r ih =>
    simp only [List.all_cons, Bool.and_eq_true] at h
    rw [spell_cons]
    cases t
    case txt v =>
      simp only [Tok.spell]
      rw [lexLoop_append_eq _ (lex_text_valueSafe (escape v) acc out (valueSafe_escape v)), ih _ _ h.2]
      simp [toLAux]
    case lit v | raw v =>
      simp only [Tok.spell]
      rw [lexLoop_append_eq _ (lex_text_valueSafe v acc out (valueSafe_of_litSafe v h.1)), ih _ _ h.2]
      simp [toLAux]
    case op n l =>
      have h1 := h.1
      simp only [allowedTok, Bool.and_eq_true] at h1
      rw [lexLoop_append_eq _ (lex_op n l acc out (tagNameOk_of_vocab n h1.1) h1.2), ih _ _ h.2]
      simp [toLAux, flushText_eq]
    case vd n l =>
      have h1 := h.1
      simp only [allowedTok, Bool.and_eq_true] at h1
      rw [lexLoop_append_eq _ (lex_vd n l acc out (tagNameOk_of_vocab n h1.1) h1.2), ih _ _ h.2]
      simp [toLAux, flushText_eq]
    case cl n =>
      rw [lexLoop_append_eq _ (lex_cl n acc out (tagNameOk_of_vocab n h.1)), ih _ _ h.2]
      simp [toLAux, flushText_eq]
    case cmt =>
      rw [lexLoop_append_eq _ (lex_cmt acc out), ih _ _ h.2]
      simp [toLAux, flushText_eq]

theorem lex_spell (ts : List Tok) (h : ts.all allowedTok = true) : lexHtml (spell ts) = some (toL ts) := by
  rw [lexHtml_eq, lex_toks ts [] [] h]
  simp [toL]

end Comrak
