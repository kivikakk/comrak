/-
The lines of a text (`FrontMatter.lines`: terminators LF, CRLF, CR), the vocabulary shared by C08
and C20.  Every text is a line-end-free content, alone or followed by a line ending and more text
(`line_cases`), which gives an induction over the lines of a text (`line_induction`); on that
shape `lines` unfolds by one line.  The feeder's `process_line` calls are these lines with every
NUL replaced (`parseLines_map_lines`).
-/
import Comrak.FrontMatter
import Comrak.Lemmas.Feed
namespace Comrak.FrontMatter
open Comrak Bytes Comrak.Feed

theorem noEol_nil : noEol [] := fun _ h => nomatch h

theorem noEol_cons {b : UInt8} {c : Bytes} : noEol (b :: c) ↔ isLineEnd b = false ∧ noEol c :=
  List.forall_mem_cons

theorem noEol_append {a b : Bytes} (ha : noEol a) (hb : noEol b) : noEol (a ++ b) :=
  List.forall_mem_append.mpr ⟨ha, hb⟩

theorem noEol_BOM : noEol BOM := by
  unfold noEol
  decide

theorem isEol_length_pos (e : Bytes) (h : IsEol e) : 0 < e.length := by
  rcases h with rfl | rfl | rfl <;> simp

theorem isEol_getLast (a e : Bytes) (h : IsEol e) : ∃ b, (a ++ e).getLast? = some b ∧ isLineEnd b = true := by
  rw [List.getLast?_append]
  rcases h with rfl | rfl | rfl <;> exact ⟨_, rfl, rfl⟩

theorem junction_nil (e : Bytes) : Junction e [] := fun _ => nofun

theorem line_cases (s : Bytes) : ∃ c, noEol c ∧
    (s = c ∨ ∃ e x, IsEol e ∧ Junction e x ∧ s = c ++ e ++ x) := by
  induction s with
  | nil => exact ⟨[], noEol_nil, Or.inl rfl⟩
  | cons b r ih =>
    by_cases hb : isLineEnd b = true
    · refine ⟨[], noEol_nil, Or.inr ?_⟩
      rcases isLineEnd_true b hb with rfl | rfl
      · exact ⟨[0x0A], r, Or.inl rfl, nofun, rfl⟩
      · cases r with
        | nil => exact ⟨[0x0D], [], Or.inr (Or.inr rfl), junction_nil _, rfl⟩
        | cons c r' =>
          by_cases hc : c = 0x0A
          · exact ⟨[0x0D, 0x0A], r', Or.inr (Or.inl rfl), nofun, by rw [hc]; rfl⟩
          · exact ⟨[0x0D], c :: r', Or.inr (Or.inr rfl), fun _ => by simpa using hc, rfl⟩
    · obtain ⟨c, hc, hs⟩ := ih
      refine ⟨b :: c, noEol_cons.mpr ⟨by simpa using hb, hc⟩, ?_⟩
      rcases hs with rfl | ⟨e, x, he, hj, rfl⟩
      · exact Or.inl rfl
      · exact Or.inr ⟨e, x, he, hj, rfl⟩

/-- Induction over the lines of a text, for functions that carry a bound on their iterations:
    every line consumes at least one byte of it. -/
theorem line_fuel_induction {P : Nat → Bytes → Prop}
    (eof : ∀ f c, noEol c → P (f + 1) c)
    (line : ∀ f c e x, noEol c → IsEol e → Junction e x → P f x → P (f + 1) (c ++ e ++ x)) :
    ∀ fuel s, s.length < fuel → P fuel s := by
  intro fuel
  induction fuel with
  | zero => intro s h; omega
  | succ f ih =>
    intro s hf
    obtain ⟨c, hc, rfl | ⟨e, x, he, hj, rfl⟩⟩ := line_cases s
    · exact eof f s hc
    · refine line f c e x hc he hj (ih x ?_)
      have := isEol_length_pos e he
      simp only [List.length_append] at hf
      omega

theorem line_induction {P : Bytes → Prop} (eof : ∀ c, noEol c → P c)
    (line : ∀ c e x, noEol c → IsEol e → Junction e x → P x → P (c ++ e ++ x)) (s : Bytes) : P s :=
  line_fuel_induction (P := fun _ s => P s) (fun _ => eof) (fun _ => line) (s.length + 1) s
    (Nat.lt_succ_self _)

theorem rawLines_flag (x : Bytes) (h : x.head? ≠ some 0x0A) :
    rawLines [] true x = rawLines [] false x := by
  cases x with
  | nil => rfl
  | cons b r =>
    have hb : b ≠ 0x0A := by simpa using h
    simp [rawLines, hb]

theorem rawLines_content (cur c t : Bytes) (hc : noEol c) :
    rawLines cur false (c ++ t) = rawLines (cur ++ c) false t := by
  induction c generalizing cur with
  | nil => rw [List.append_nil]; rfl
  | cons b c ih =>
    obtain ⟨hb, hc⟩ := noEol_cons.mp hc
    obtain ⟨h1, h2⟩ := isLineEnd_false b hb
    simp only [List.cons_append, rawLines, h1, h2, if_false]
    rw [ih _ hc, List.append_assoc]
    rfl

theorem lines_nil : lines [] = [] := rfl

theorem lines_line (c e x : Bytes) (hc : noEol c) (he : IsEol e) (hj : Junction e x) :
    lines (c ++ e ++ x) = c :: lines x := by
  rw [lines, List.append_assoc, rawLines_content [] c _ hc]
  rcases he with rfl | rfl | rfl
  · rfl
  · rfl
  · exact congrArg _ (rawLines_flag x (hj rfl))

theorem lines_eol (c e : Bytes) (hc : noEol c) (he : IsEol e) : lines (c ++ e) = [c] := by
  simpa [lines_nil] using lines_line c e [] hc he (junction_nil e)

theorem lines_noEol (c : Bytes) (hc : noEol c) : lines c = if c = [] then [] else [c] := by
  simpa [lines, rawLines] using rawLines_content [] c [] hc

theorem junction_append (e : Bytes) {x : Bytes} (y : Bytes) (hx : x ≠ []) :
    Junction e (x ++ y) ↔ Junction e x := by
  cases x with
  | nil => exact absurd rfl hx
  | cons b x => exact Iff.rfl

theorem lines_prefix (p x : Bytes) (hp : noEol p) (hne : x ≠ []) :
    lines (p ++ x) = match lines x with | [] => [] | l :: ls => (p ++ l) :: ls := by
  obtain ⟨c, hc, rfl | ⟨e, y, he, hj, rfl⟩⟩ := line_cases x
  · rw [lines_noEol (p ++ x) (noEol_append hp hc), lines_noEol x hc, if_neg hne,
      if_neg (List.append_ne_nil_of_right_ne_nil p hne)]
  · rw [← List.append_assoc, ← List.append_assoc, lines_line (p ++ c) e y (noEol_append hp hc) he hj,
      lines_line c e y hc he hj]

theorem lines_final : ∀ x : Bytes, x ≠ [] →
    (∀ c, x.getLast? = some c → c ≠ 0x0A ∧ c ≠ 0x0D) → lines (x ++ [0x0A]) = lines x := by
  refine line_induction ?_ ?_
  · intro c hc hne _
    rw [lines_eol c [0x0A] hc (Or.inl rfl), lines_noEol c hc, if_neg hne]
  · intro c e x hc he hj ih _ hlast
    have hx : x ≠ [] := by
      rintro rfl
      obtain ⟨b, hb, hbe⟩ := isEol_getLast c e he
      obtain ⟨h1, h2⟩ := hlast b (by rwa [List.append_nil])
      exact (isLineEnd_true b hbe).elim h1 h2
    rw [List.append_assoc (c ++ e), lines_line c e _ hc he ((junction_append e _ hx).mpr hj),
      lines_line c e x hc he hj,
      ih hx fun b hb => hlast b (by rw [List.getLast?_append, hb]; rfl)]

theorem noEol_of_mem_lines : ∀ x : Bytes, ∀ l ∈ lines x, noEol l := by
  refine line_induction ?_ ?_
  · intro c hc
    rw [lines_noEol c hc]
    split
    · nofun
    · exact List.forall_mem_cons.mpr ⟨hc, nofun⟩
  · intro c e x hc he hj ih
    rw [lines_line c e x hc he hj]
    exact List.forall_mem_cons.mpr ⟨hc, ih⟩

theorem nulToFFFD_append (a b : Bytes) : nulToFFFD (a ++ b) = nulToFFFD a ++ nulToFFFD b := by
  induction a with
  | nil => rfl
  | cons x a ih =>
    simp only [List.cons_append, nulToFFFD]
    split <;> simp [ih]

theorem nulToFFFD_eq_nil (a : Bytes) : nulToFFFD a = [] ↔ a = [] := by
  cases a with
  | nil => simp [nulToFFFD]
  | cons x a =>
    simp only [nulToFFFD]
    split <;> simp [FFFD]

theorem nulToFFFD_plain (l : Bytes) (h : noEol l) : ∀ b ∈ nulToFFFD l, plain b := by
  induction l with
  | nil => nofun
  | cons a r ih =>
    obtain ⟨ha, hr⟩ := noEol_cons.mp h
    obtain ⟨h1, h2⟩ := isLineEnd_false a ha
    rw [nulToFFFD]
    split
    · exact List.forall_mem_append.mpr ⟨by unfold plain; decide, ih hr⟩
    · rename_i h0
      exact List.forall_mem_cons.mpr ⟨⟨h1, h2, h0⟩, ih hr⟩

theorem splitLines_eq_rawLines (s cur : Bytes) (cr : Bool) :
    splitLines (nulToFFFD cur) cr s = (rawLines cur cr s).map nulToFFFD := by
  induction s generalizing cur cr with
  | nil =>
    simp only [splitLines, rawLines, nulToFFFD_eq_nil]
    split <;> simp
  | cons b r ih =>
    by_cases h1 : b = 0x0A
    · cases cr <;> simp [splitLines, rawLines, ← ih, nulToFFFD, h1]
    · by_cases h2 : b = 0x0D
      · simp [splitLines, rawLines, ← ih, nulToFFFD, h2]
      · by_cases h3 : b = 0x00 <;>
          simp [splitLines, rawLines, ← ih, nulToFFFD, nulToFFFD_append, h1, h2, h3]

/-- The `process_line` calls of `parse_document` are the lines of the text, with every NUL
    replaced on the way. -/
theorem parseLines_map_lines (s : Bytes) : parseLines s = (lines s).map nulToFFFD := by
  rw [parseLines_eq_splitLines]
  exact splitLines_eq_rawLines s [] false

theorem rawLines_toLf (x cur : Bytes) (cr : Bool) :
    rawLines cur false (toLf cr x) = rawLines cur cr x := by
  induction x generalizing cur cr with
  | nil => simp [toLf, rawLines]
  | cons b r ih =>
    by_cases h1 : b = 0x0A
    · subst h1
      cases cr <;> simp [toLf, rawLines, ih]
    · by_cases h2 : b = 0x0D
      · subst h2; simp [toLf, rawLines, ih]
      · simp only [toLf, h1, h2, if_false, rawLines]
        exact ih _ _

end Comrak.FrontMatter
