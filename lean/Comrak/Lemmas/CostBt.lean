/-
C06 helper lemmas: the positional backtick memo (`btLoopPos`, the model that equals the real
`backtick-scan` counter) obeys the same amortised bound as the specification-level memo.

Invariant `MemoInv memo pos rs`: every memo entry that lies ahead of the current position is (at most)
the start of a run of that length that is still ahead. Hence once `scanned_for_backticks` is set, a scan
that is not rejected by the memo test always finds its closer: at most one scan ever fails.
-/
import Comrak.Cost
namespace Comrak.Cost
open Comrak

/-- Some run of length `k` among `rs` (which start at byte `pos`) starts at byte `x` or later. -/
def ahead (k x : Nat) : Nat → List Run → Prop
  | _, [] => False
  | pos, r :: rs => (r.len = k ∧ x ≤ pos + r.gap) ∨ ahead k x (pos + r.gap + r.len) rs

def MemoInv (memo : Nat → Nat) (pos : Nat) (rs : List Run) : Prop :=
  ∀ k, pos < memo k → ahead k (memo k) pos rs

theorem memoInv_init (rs : List Run) : MemoInv (fun _ => 0) 0 rs := by
  intro k h; exact absurd h (by simp)

theorem memoInv_tail (memo : Nat → Nat) (pos : Nat) (r : Run) (rs : List Run)
    (h : MemoInv memo pos (r :: rs)) : MemoInv memo (pos + r.gap + r.len) rs := by
  intro k hk
  have := h k (by omega)
  simp only [ahead] at this
  rcases this with ⟨_, h2⟩ | h2
  · omega
  · exact h2

theorem memoInv_update (memo : Nat → Nat) (pos : Nat) (rs : List Run) (j x : Nat) (hx : x ≤ pos)
    (h : MemoInv memo pos rs) : MemoInv (fun k => if k = j then x else memo k) pos rs := by
  intro k hk
  by_cases hj : k = j
  · simp [hj] at hk; omega
  · simp only [hj, if_false] at hk ⊢; exact h k hk

theorem scanPos_found_of_ahead (L x : Nat) (memo : Nat → Nat) (pos : Nat) (rs : List Run)
    (h : ahead L x pos rs) : (scanPos L memo pos rs).found = true := by
  fun_induction scanPos L memo pos rs
  · simp [ahead] at h
  · rfl
  · rename_i r rs start memo' hne s ih
    simp only [ahead] at h
    exact ih (h.resolve_left (fun h => hne h.1))

theorem scanPos_memo (L k : Nat) (memo : Nat → Nat) (pos : Nat) (rs : List Run) :
    (scanPos L memo pos rs).memo k = memo k ∨ ahead k ((scanPos L memo pos rs).memo k) pos rs := by
  fun_induction scanPos L memo pos rs
  · exact Or.inl rfl
  · -- the closer: its entry is its own start
    rename_i r rs start memo' _
    simp only [ahead, memo', start]
    split
    · by_cases hk : k = r.len
      · right; left; simp [hk]
      · left; simp [hk]
    · left; rfl
  · rename_i r rs start memo' _ s ih
    simp only [ahead, s, memo', start] at ih ⊢
    rcases ih with h | h
    · rw [h]
      split
      · by_cases hk : k = r.len
        · right; left; simp [hk]
        · left; simp [hk]
      · left; rfl
    · right; right; exact h

theorem memoInv_scan_same (L : Nat) (memo : Nat → Nat) (pos : Nat) (rs : List Run) (h : MemoInv memo pos rs) :
    MemoInv (scanPos L memo pos rs).memo pos rs := by
  intro k hk
  rcases scanPos_memo L k memo pos rs with h1 | h1
  · rw [h1] at hk ⊢; exact h k hk
  · exact h1

theorem memoInv_pass (memo : Nat → Nat) (pos : Nat) (r : Run) (rs : List Run) (h : MemoInv memo pos (r :: rs)) :
    MemoInv (if r.len ≤ MAXBACKTICKS then fun k => if k = r.len then pos + r.gap else memo k else memo)
      (pos + r.gap + r.len) rs := by
  have ht := memoInv_tail memo pos r rs h
  split
  · exact memoInv_update memo _ rs r.len (pos + r.gap) (by omega) ht
  · exact ht

theorem memoInv_scan_found (L : Nat) (memo : Nat → Nat) (pos : Nat) (rs : List Run) (h : MemoInv memo pos rs)
    (hf : (scanPos L memo pos rs).found = true) :
    MemoInv (scanPos L memo pos rs).memo (scanPos L memo pos rs).pos (scanPos L memo pos rs).rest := by
  fun_induction scanPos L memo pos rs
  · simp at hf
  · exact memoInv_pass _ _ _ _ h
  · rename_i ih
    exact ih (memoInv_pass _ _ _ _ h) hf

theorem scanPos_cost (L : Nat) (memo : Nat → Nat) (pos : Nat) (rs : List Run) :
    ((scanPos L memo pos rs).found = true →
        (scanPos L memo pos rs).cost + totalLen (scanPos L memo pos rs).rest = totalLen rs ∧
        (scanPos L memo pos rs).rest.length < rs.length) ∧
    ((scanPos L memo pos rs).found = false → (scanPos L memo pos rs).cost = totalLen rs) := by
  fun_induction scanPos L memo pos rs
  · simp [totalLen]
  · simp [totalLen]
  · rename_i r rs start memo' hne s ih
    simp only [s, totalLen, List.length_cons] at ih ⊢
    exact ⟨fun hf => by have := ih.1 hf; omega, fun hf => by have := ih.2 hf; omega⟩

/-- The amortised bound, by flag state: one step per opener, every byte scanned at most once by a successful
    scan, and, while the flag is not set, once more by the one scan that runs to the end of the input. -/
def btBound : Bool → List Run → Nat → Nat
  | true, rs, _ => rs.length + totalLen rs
  | false, rs, tail => rs.length + 2 * totalLen rs + tail

theorem btBound_step (scanned : Bool) (r : Run) (rs rest : List Run) (tail c : Nat)
    (h1 : c + totalLen rest = totalLen rs) (h2 : rest.length ≤ rs.length) :
    1 + c + btBound scanned rest tail ≤ btBound scanned (r :: rs) tail := by
  cases scanned <;> simp only [btBound, totalLen, List.length_cons] <;> omega

theorem btBound_fail (r : Run) (rs : List Run) (tail : Nat) :
    1 + totalLen rs + tail + btBound true rs tail ≤ btBound false (r :: rs) tail := by
  simp only [btBound, totalLen, List.length_cons]; omega

theorem btLoopPos_bound (fuel : Nat) (scanned : Bool) (memo : Nat → Nat) (pos : Nat) (rs : List Run) (tail : Nat)
    (hI : MemoInv memo pos rs) : btLoopPos fuel scanned memo pos rs tail ≤ btBound scanned rs tail := by
  fun_induction btLoopPos fuel scanned memo pos rs tail
  · exact Nat.zero_le _
  · exact Nat.zero_le _
  · rename_i scanned memo pos r rs tail p _ ih
    have := ih (memoInv_tail memo pos r rs hI)
    have := btBound_step scanned r rs rs tail 0 (by omega) (Nat.le_refl _)
    omega
  · rename_i scanned memo pos r rs tail p _ _ ih
    have := ih (memoInv_tail memo pos r rs hI)
    have := btBound_step scanned r rs rs tail 0 (by omega) (Nat.le_refl _)
    omega
  · rename_i scanned memo pos r rs tail p _ _ s hf ih
    simp only [s] at hf ih ⊢
    have ht := memoInv_tail memo pos r rs hI
    have ⟨h1, h2⟩ := (scanPos_cost r.len memo p rs).1 hf
    have := ih (memoInv_scan_found r.len memo p rs ht hf)
    have := btBound_step scanned r rs _ tail _ h1 (Nat.le_of_lt h2)
    omega
  · rename_i scanned memo pos r rs tail p _ hmemo s hf ih
    simp only [s] at hf ih ⊢
    have ht := memoInv_tail memo pos r rs hI
    have hf' : (scanPos r.len memo p rs).found = false := by simpa using hf
    cases scanned with
    | false =>
      have := ih (memoInv_scan_same r.len memo p rs ht)
      have := (scanPos_cost r.len memo p rs).2 hf'
      have := btBound_fail r rs tail
      omega
    | true =>
      -- the flag is set and the memo test passed: a run of this length is ahead, the scan succeeds
      have hgt : p < memo r.len := by
        simp only [Bool.true_and, decide_eq_true_eq] at hmemo; omega
      have := scanPos_found_of_ahead r.len _ memo _ rs (ht r.len hgt)
      rw [this] at hf'; exact absurd hf' (by simp)

end Comrak.Cost
