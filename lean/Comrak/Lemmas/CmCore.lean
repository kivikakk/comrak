/-
The CommonMark writer without wrapping (`width = 0`), seen through the fields that decide what is
written (`Core`): the line-assembly state machine of Comrak/Cm.lean is a small machine with three
operations (write bytes behind the pending line ends and the prefix, ask for a line end, ask for a
blank line), and the byte loop of `output` writes, byte by byte, what the escaping rule spells.
-/
import Comrak.Cm
import Comrak.Lemmas.CanonPosH
import Comrak.Lemmas.Escape
namespace Comrak.CmCanon
open Comrak Bytes Comrak.Cm Comrak.Canon

/-- The fields of the writer state that decide the output when nothing wraps. -/
structure Core where
  rv : Bytes
  pfx : Bytes
  need : Nat
  bol : Bool
  tight : Bool
  nolb : Bool
  ce : Bool
  ol : List Nat
  deriving DecidableEq

def core (s : Cm.St) : Core :=
  ⟨s.rv, s.prefix_, s.needCr, s.beginLine, s.inTight, s.noLinebreaks, s.customEscape, s.olStack⟩

/-- Line ends written by a flush of `n` pending ones (the blank line carries the prefix). -/
def nls (n : Nat) (P : Bytes) : Bytes :=
  match n with
  | 0 => []
  | 1 => [0x0A]
  | _ => [0x0A] ++ P ++ [0x0A]

def Core.n (a : Core) : Nat := if a.tight && a.need > 1 then 1 else a.need

/-- What the next write puts before its own bytes: pending line ends, then the line prefix. -/
def Core.lead (a : Core) : Bytes :=
  (if a.rv.isEmpty then [] else nls a.n a.pfx) ++ (if a.n > 0 || a.bol then a.pfx else [])

structure Good (a : Core) : Prop where
  ce : a.ce = false
  nc : a.need ≤ 2
  hd : a.rv.head? ≠ some 0x0A

/-- Write the non-empty bytes `bs` (no line end among them). -/
def aW (bs : Bytes) (a : Core) : Core :=
  { a with rv := bs.reverse ++ a.lead.reverse ++ a.rv, need := 0, bol := false }

def aCr (a : Core) : Core := { a with need := max a.need 1 }
def aBlank (a : Core) : Core := { a with need := max a.need 2 }

theorem core_cr (s : Cm.St) : core s.cr = aCr (core s) := rfl
theorem core_blank (s : Cm.St) : core s.blankline = aBlank (core s) := rfl

def aFlush (a : Core) : Core :=
  if a.n = 0 then { a with need := 0 }
  else { a with rv := (if a.rv.isEmpty then [] else (nls a.n a.pfx).reverse) ++ a.rv, bol := true, need := 0 }

theorem crLoop_nil (P : Bytes) : ∀ (n j : Nat), crLoop [] P n j [] = []
  | 0, _ => rfl
  | n + 1, j => by simp [crLoop, crLoop_nil P n (j + 1)]

theorem core_crFlush (s : Cm.St) (g : Good (core s)) : core (crFlush s) = aFlush (core s) := by
  obtain ⟨rv, pf, col, nc, lb, bl, bc, nolb, it, ce, ol⟩ := s
  have hn := g.nc
  have hh := g.hd
  simp only [core] at hn hh
  simp only [crFlush, aFlush, Core.n, core]
  have h3 : nc = 0 ∨ nc = 1 ∨ nc = 2 := by omega
  cases rv with
  | nil =>
    rcases h3 with rfl | rfl | rfl <;> cases it <;> simp [crLoop_nil]
  | cons c r =>
    have hc : (c == 0x0A) = false := by simpa using hh
    rcases h3 with rfl | rfl | rfl <;> cases it <;> simp [crLoop, hc, nls]

theorem wrapCheck_zero (s : Cm.St) : wrapCheck {} s = s := by simp [wrapCheck]

/-- One byte put on the current line, behind the prefix if the line is still empty. -/
def aByte (c : UInt8) (a : Core) : Core :=
  { a with rv := c :: ((if a.bol then a.pfx.reverse else []) ++ a.rv), bol := false }

/-- One round of the byte loop of `output` when nothing wraps and no table is open. -/
def byteStep (esc : Esc) (s : Cm.St) (c : UInt8) (nx : Option UInt8) : Cm.St :=
  if esc == .literal then litByte (pre false s c) c
  else
    let st2 := outc {} false (pre false s c) c esc nx
    { st2 with beginLine := false, beginContent := st2.beginContent && isAsciiDigit c }

theorem outLoop_cons (esc : Esc) (f : Nat) (s : Cm.St) (c : UInt8) (r : Bytes) :
    outLoop {} false false esc (f + 1) s (c :: r) = outLoop {} false false esc f (byteStep esc s c r.head?) r := by
  simp only [outLoop, Bool.and_false, Bool.false_eq_true, if_false, wrapCheck_zero, byteStep]
  split <;> rfl

/-- Under escaping `esc` the byte `c` reaches the line as the bytes `x`. -/
def WritesAs (esc : Esc) (c : UInt8) (x : Bytes) : Prop :=
  ∀ s nx, core (byteStep esc s c nx) = x.foldl (fun a b => aByte b a) (core s)

theorem core_outLoop (esc : Esc) (enc : UInt8 → Bytes) : ∀ (bs : Bytes) (f : Nat) (s : Cm.St), bs.length < f →
    (∀ c ∈ bs, WritesAs esc c (enc c)) →
    core (outLoop {} false false esc f s bs) = (bs.flatMap enc).foldl (fun a c => aByte c a) (core s)
  | [], f, s, _, _ => by cases f <;> rfl
  | c :: r, 0, s, h, _ => by simp at h
  | c :: r, f + 1, s, h, hw => by
    rw [outLoop_cons, core_outLoop esc enc r f _ (by simpa using h) (fun d hd => hw d (List.mem_cons_of_mem _ hd)),
      hw c List.mem_cons_self, List.flatMap_cons, List.foldl_append]

theorem foldl_aByte_mid : ∀ (bs : Bytes) (a : Core), a.bol = false →
    bs.foldl (fun a c => aByte c a) a = { a with rv := bs.reverse ++ a.rv }
  | [], a, _ => by simp
  | c :: r, a, h => by
    have h1 : (aByte c a).bol = false := rfl
    rw [List.foldl_cons, foldl_aByte_mid r _ h1]
    simp [aByte, h]

theorem foldl_aByte (bs : Bytes) (a : Core) (h0 : bs ≠ []) :
    bs.foldl (fun a c => aByte c a) a =
      { a with rv := bs.reverse ++ (if a.bol then a.pfx.reverse else []) ++ a.rv, bol := false } := by
  cases bs with
  | nil => exact absurd rfl h0
  | cons c r =>
    rw [List.foldl_cons, foldl_aByte_mid r _ rfl]
    simp [aByte]

theorem aW_eq_flush (bs : Bytes) (a : Core) :
    aW bs a = (let f := aFlush a
      { f with rv := bs.reverse ++ (if f.bol then f.pfx.reverse else []) ++ f.rv, bol := false }) := by
  simp only [aW, aFlush, Core.lead]
  by_cases h0 : a.n = 0
  · simp only [h0, if_true]
    have : nls 0 a.pfx = [] := rfl
    cases a.bol <;> simp [this]
  · have hp : a.n > 0 := by omega
    simp only [h0, if_false, hp, decide_true, Bool.true_or, if_true]
    cases a.rv.isEmpty <;> simp

theorem core_output (esc : Esc) (enc : UInt8 → Bytes) (s : Cm.St) (g : Good (core s)) (bs : Bytes)
    (hw : ∀ c ∈ bs, WritesAs esc c (enc c)) (h0 : bs.flatMap enc ≠ []) :
    core (output {} false s bs false esc) = aW (bs.flatMap enc) (core s) := by
  simp only [output, Bool.false_and]
  rw [core_outLoop esc enc bs _ _ (by omega) hw, core_crFlush s g, foldl_aByte _ _ h0, aW_eq_flush]

theorem writesAs_literal (c : UInt8) (hc : c ≠ 0x0A) : WritesAs .literal c [c] := by
  intro s nx
  obtain ⟨rv, pf, col, nc, lb, bl, bc, nolb, it, ce, ol⟩ := s
  have hc' : (c == 0x0A) = false := by simpa using hc
  simp only [byteStep, pre, litByte, hc', Bool.false_and, Bool.false_eq_true, if_false, core, aByte, List.foldl_cons, List.foldl_nil]
  cases bl <;> simp

theorem writesAs_noEscape (esc : Esc) (c : UInt8) (he : (esc == Esc.literal) = false)
    (hne : ∀ bc fd nx, needsEscape c esc bc fd nx = false) : WritesAs esc c [c] := by
  intro s nx
  obtain ⟨rv, pf, col, nc, lb, bl, bc, nolb, it, ce, ol⟩ := s
  simp only [byteStep, he, outc, hne, Bool.false_eq_true, if_false, pre, Bool.false_and, core, aByte, List.foldl_cons, List.foldl_nil]
  cases bl <;> simp

theorem core_output_raw (esc : Esc) (s : Cm.St) (g : Good (core s)) (bs : Bytes) (hw : ∀ c ∈ bs, WritesAs esc c [c])
    (h0 : bs ≠ []) : core (output {} false s bs false esc) = aW bs (core s) := by
  have e : bs.flatMap (fun c => [c]) = bs := by simp
  have := core_output esc (fun c => [c]) s g bs hw (by rw [e]; exact h0)
  rwa [e] at this

theorem core_wr (s : Cm.St) (g : Good (core s)) (bs : Bytes) (h0 : bs ≠ []) (hn : nlFree bs = true) :
    core (wr {} false bs s) = aW bs (core s) := by
  have he : bs.isEmpty = false := by cases bs <;> simp_all
  simp only [wr, he, Bool.false_eq_true, if_false]
  exact core_output_raw .literal s g bs (fun c hc => writesAs_literal c (by simpa using List.all_eq_true.mp hn c hc)) h0

/-- Letters, digits, space, `, ; ? / { } @ %` and the bytes of multi-byte characters. -/
def plainOk (c : UInt8) : Bool :=
  c ≥ 0x80 || isAsciiAlnum c || c == 0x20 || [0x2C, 0x3B, 0x3F, 0x2F, 0x7B, 0x7D, 0x40, 0x25].contains c

theorem plainOk_facts : ∀ c : UInt8, plainOk c = true →
    (decide (c < 0x80) = false) ∨
      ((decide (c < 0x20) || c == 0x2A || c == 0x5F || c == 0x5B || c == 0x5D || c == 0x23 || c == 0x3C || c == 0x3E
          || c == 0x5C || c == 0x60 || c == 0x21) = false ∧ (c == 0x26) = false ∧
        (c == 0x2D || c == 0x2B || c == 0x3D) = false ∧ (c == 0x2E || c == 0x29) = false) :=
  forall_uint8_of_fin (by decide +kernel)

theorem plainOk_noEscape (c : UInt8) (h : plainOk c = true) (bc fd : Bool) (nx : UInt8) :
    needsEscape c .normal bc fd nx = false := by
  rcases plainOk_facts c h with h1 | ⟨h1, h2, h3, h4⟩
  · simp [needsEscape, h1]
  · simp only [Bool.or_eq_false_iff] at h1 h3 h4
    simp [needsEscape, h1, h2, h3, h4]

theorem plainOk_ne_nl (c : UInt8) (h : plainOk c = true) : c ≠ 0x0A := by
  intro e
  subst e
  exact absurd (plainOk_noEscape 0x0A h false false 0) (by decide)

theorem core_outText (s : Cm.St) (g : Good (core s)) (bs : Bytes) (h0 : bs ≠ []) (hp : bs.all plainOk = true) :
    core (output {} false s bs false .normal) = aW bs (core s) :=
  core_output_raw .normal s g bs
    (fun c hc => writesAs_noEscape .normal c rfl (plainOk_noEscape c (List.all_eq_true.mp hp c hc))) h0

theorem aW_fields (bs : Bytes) (a : Core) : (aW bs a).pfx = a.pfx ∧ (aW bs a).tight = a.tight ∧ (aW bs a).nolb = a.nolb ∧
    (aW bs a).ce = a.ce ∧ (aW bs a).ol = a.ol ∧ (aW bs a).need = 0 ∧ (aW bs a).bol = false := ⟨rfl, rfl, rfl, rfl, rfl, rfl, rfl⟩

def Core.mid (a : Core) : Prop := a.need = 0 ∧ a.bol = false

theorem lead_mid (a : Core) (h : a.mid) : a.lead = [] := by
  obtain ⟨h1, h2⟩ := h
  simp [Core.lead, Core.n, h1, h2, nls]

theorem aW_aW (x y : Bytes) (a : Core) : aW y (aW x a) = aW (x ++ y) a := by
  have := lead_mid (aW x a) ⟨rfl, rfl⟩
  show ({ aW x a with rv := y.reverse ++ (aW x a).lead.reverse ++ (aW x a).rv, need := 0, bol := false } : Core) = _
  rw [this]
  simp [aW]

theorem good_aW (bs : Bytes) (a : Core) (g : Good a) (h0 : bs ≠ []) (hn : nlFree bs = true) : Good (aW bs a) := by
  refine ⟨g.ce, by simp [aW], ?_⟩
  obtain ⟨b, hb⟩ := dropLast_append_last bs h0
  have hbn : b ≠ 0x0A := by
    rw [hb, nlFree_append] at hn
    simp only [Bool.and_eq_true, nlFree, List.all_cons, List.all_nil, Bool.and_true, bne_iff_ne, ne_eq] at hn
    exact hn.2
  simp only [aW]
  rw [hb]
  simp [hbn]

theorem good_aCr (a : Core) (g : Good a) : Good (aCr a) := ⟨g.ce, by have := g.nc; simp [aCr]; omega, g.hd⟩
theorem good_aBlank (a : Core) (g : Good a) : Good (aBlank a) := ⟨g.ce, by simp [aBlank]; have := g.nc; omega, g.hd⟩

/-- Feeding inline source bytes: a line end asks for a new line, any other byte is written. -/
def feedA (x : Bytes) (a : Core) : Core := x.foldl (fun a b => if b = 0x0A then aCr a else aW [b] a) a

theorem feedA_nil (a : Core) : feedA [] a = a := rfl
theorem feedA_cons (b : UInt8) (r : Bytes) (a : Core) :
    feedA (b :: r) a = feedA r (if b = 0x0A then aCr a else aW [b] a) := rfl
theorem feedA_append (x y : Bytes) (a : Core) : feedA (x ++ y) a = feedA y (feedA x a) := by
  simp [feedA, List.foldl_append]

theorem feedA_nlFree : ∀ (x : Bytes) (a : Core), x ≠ [] → nlFree x = true → feedA x a = aW x a
  | [], _, h, _ => absurd rfl h
  | [b], a, _, hn => by
    simp only [nlFree, List.all_cons, List.all_nil, Bool.and_true, bne_iff_ne, ne_eq] at hn
    simp [feedA, hn]
  | b :: c :: r, a, _, hn => by
    simp only [nlFree, List.all_cons, Bool.and_eq_true, bne_iff_ne, ne_eq] at hn
    rw [feedA_cons, if_neg hn.1, feedA_nlFree (c :: r) _ (by simp) (by simp [nlFree, hn.2.1, hn.2.2]), aW_aW]
    rfl

theorem good_feedA : ∀ (x : Bytes) (a : Core), Good a → Good (feedA x a)
  | [], _, g => g
  | b :: r, a, g => by
    rw [feedA_cons]
    split
    · exact good_feedA r _ (good_aCr a g)
    · rename_i hb
      exact good_feedA r _ (good_aW [b] a g (by simp) (by simp [nlFree, hb]))

theorem feedA_fields : ∀ (x : Bytes) (a : Core), (feedA x a).pfx = a.pfx ∧ (feedA x a).tight = a.tight ∧
    (feedA x a).nolb = a.nolb ∧ (feedA x a).ce = a.ce ∧ (feedA x a).ol = a.ol
  | [], _ => ⟨rfl, rfl, rfl, rfl, rfl⟩
  | b :: r, a => by
    rw [feedA_cons]
    split <;> exact feedA_fields r _

theorem feedA_nolb : ∀ (x : Bytes) (a : Core) (b : Bool), feedA x { a with nolb := b } = { feedA x a with nolb := b }
  | [], _, _ => rfl
  | c :: r, a, b => by
    rw [feedA_cons, feedA_cons]
    by_cases h : c = 0x0A
    · rw [if_pos h, if_pos h]; exact feedA_nolb r (aCr a) b
    · rw [if_neg h, if_neg h]; exact feedA_nolb r (aW [c] a) b

end Comrak.CmCanon
