/-
C03 / C11 / C12, canonical documents: the positioned tree `Doc.toTreeP d` is the tree `Doc.toTree d`
of the renderer theorems with positions filled in, nothing else.
-/
import Comrak.Canon.Pos
namespace Comrak.Canon
open Comrak Bytes

mutual
def eraseT : Tree → Tree
  | .node v _ cs => .node v {} (eraseF cs)
def eraseF : Forest → Forest
  | .nil => .nil
  | .cons t ts => .cons (eraseT t) (eraseF ts)
end

mutual
theorem inl_erase : ∀ (i : Inl) (c0 : Nat) (p : Pos), eraseT (i.toTreeP c0 p) = i.toTree
  | .text _, _, _ | .code .., _, _ | .autolink .., _, _ | .hard _, _, _ | .soft, _, _ | .fnref .., _, _ => by
    simp [Inl.toTreeP, Inl.toTree, leaf, eraseT, eraseF]
  | .emph _ cs, _, _ | .strong _ cs, _, _ | .strike cs, _, _ | .link _ _ _ _ cs, _, _ | .image _ _ _ cs, _, _ => by
    simp [Inl.toTreeP, Inl.toTree, eraseT, inls_erase cs]
theorem inls_erase : ∀ (is : Inls) (c0 : Nat) (p : Pos), eraseF (is.toForestP c0 p) = is.toForest
  | .nil, _, _ => by simp [Inls.toForestP, Inls.toForest, eraseF]
  | .cons i r, c0, p => by simp [Inls.toForestP, Inls.toForest, eraseF, inl_erase i, inls_erase r]
end

mutual
theorem eraseT_idem : ∀ t : Tree, eraseT (eraseT t) = eraseT t
  | .node v _ cs => by simp only [eraseT, eraseF_idem cs]
theorem eraseF_idem : ∀ f : Forest, eraseF (eraseF f) = eraseF f
  | .nil => rfl
  | .cons t ts => by simp only [eraseF, eraseT_idem t, eraseF_idem ts]
end

theorem inl_erase0 : ∀ (i : Inl), eraseT i.toTree = i.toTree :=
  fun i => by rw [← inl_erase i 0 (0, 0), eraseT_idem]

theorem inls_erase0 : ∀ (is : Inls), eraseF is.toForest = is.toForest :=
  fun is => by rw [← inls_erase is 0 (0, 0), eraseF_idem]

theorem cells_erase (l : Nat) : ∀ (cs : List Inls) (c : Nat), eraseF (cellsP l c cs) = cellsForest cs
  | [], _ => by simp [cellsP, cellsForest, eraseF]
  | x :: r, c => by
    simp only [cellsP, cellsForest, eraseF, eraseT, cells_erase l r]
    split <;> simp [inls_erase0, inls_erase]

theorem rows_erase (c : Nat) : ∀ (rows : List (List Inls)) (l : Nat), eraseF (rowsP c l rows) = rowsForest rows
  | [], _ => by simp [rowsP, rowsForest, eraseF]
  | r :: rs, l => by simp [rowsP, rowsForest, eraseF, eraseT, cells_erase, rows_erase c rs]

mutual
theorem blk_erase : ∀ (b : Blk) (l c0 c1 : Nat), eraseT (b.toTreeP l c0 c1) = b.toTree
  | .para _, _, _, _ | .heading .., _, _, _ | .setext .., _, _, _ => by simp [Blk.toTreeP, Blk.toTree, eraseT, inls_erase]
  | .hr .., _, _, _ | .fence .., _, _, _ | .icode _, _, _, _ | .htmlb _, _, _, _ => by
    simp [Blk.toTreeP, Blk.toTree, leaf, eraseT, eraseF]
  | .quote bs, l, _, c1 => by simp [Blk.toTreeP, Blk.toTree, eraseT, blks_erase bs]
  | .list m items, l, _, c1 => by simp [Blk.toTreeP, Blk.toTree, eraseT, items_erase items]
  | .table al h rows, _, _, _ => by simp [Blk.toTreeP, Blk.toTree, eraseT, eraseF, cells_erase, rows_erase]
theorem blks_erase : ∀ (bs : Blks) (tight : Bool) (l c0 c1 : Nat), eraseF (bs.toForestP tight l c0 c1) = bs.toForest
  | .nil, _, _, _, _ => by simp [Blks.toForestP, Blks.toForest, eraseF]
  | .cons b r, tight, l, c0, c1 => by simp [Blks.toForestP, Blks.toForest, eraseF, blk_erase b, blks_erase r]
theorem items_erase : ∀ (items : Items) (m : Marker) (k l c : Nat), eraseF (items.toForestP m k l c) = items.toForest m k
  | .nil, _, _, _, _ => by simp [Items.toForestP, Items.toForest, eraseF]
  | .cons t bs r, m, k, l, c => by simp [Items.toForestP, Items.toForest, eraseF, eraseT, blks_erase bs, items_erase r]
end

theorem notes_erase (order : List Nat) (l0 nw : Nat) : ∀ (notes : List Note) (i : Nat),
    eraseF (notesForestP order l0 nw i notes) = notesForest notes
  | [], _ => by simp [notesForestP, notesForest, eraseF]
  | n :: r, i => by
    simp [notesForestP, notesForest, eraseF, eraseT, Note.toTreeP, Note.toTree, inls_erase, notes_erase order l0 nw r]

theorem then_erase (tailP tail : Forest) (h : eraseF tailP = tail) : ∀ (bs : Blks) (l : Nat),
    eraseF (bs.toForestThenP tailP l) = bs.toForestThen tail
  | .nil, _ => by simpa [Blks.toForestThenP, Blks.toForestThen] using h
  | .cons b r, l => by simp [Blks.toForestThenP, Blks.toForestThen, eraseF, blk_erase b, then_erase tailP tail h r]

theorem doc_erase (d : Doc) : eraseT d.toTreeP = d.toTree := by
  simp only [Doc.toTreeP, Doc.toTree, eraseT]
  congr 1
  exact then_erase _ _ (notes_erase _ _ _ _ _) _ _

end Comrak.Canon
