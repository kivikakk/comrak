/-
Positions of canonical documents, layer A: the line table and the slices of a source that is given
as a list of lines `G` free of line-end bytes (`src = joinLines G`).
-/
import Comrak.Canon.Pos
import Comrak.Lemmas.Sourcepos
namespace Comrak.Canon
open Comrak Bytes

def cleanB (g : Bytes) : Bool := g.all fun b => b != 0x0A && b != 0x0D
def cleanG (G : List Bytes) : Bool := G.all cleanB

theorem joinLines_nil : joinLines [] = [] := rfl
theorem joinLines_cons (g : Bytes) (G : List Bytes) : joinLines (g :: G) = g ++ 0x0A :: joinLines G := by
  simp [joinLines]
theorem joinLines_append (A B : List Bytes) : joinLines (A ++ B) = joinLines A ++ joinLines B := by
  simp [joinLines]

theorem splitLines_cons (b : UInt8) (r : Bytes) (h1 : b ≠ 0x0A) (h2 : b ≠ 0x0D) (c t : Bytes) (ls : List (Bytes × Bytes))
    (hr : splitLines r = (c, t) :: ls) : splitLines (b :: r) = (b :: c, t) :: ls := by
  unfold splitLines
  simp only [h1, h2, if_false, hr]

theorem splitLines_line (g rest : Bytes) (h : cleanB g = true) :
    splitLines (g ++ 0x0A :: rest) = (g, [0x0A]) :: splitLines rest := by
  induction g with
  | nil => rfl
  | cons b g ih =>
    simp only [cleanB, List.all_cons, Bool.and_eq_true, bne_iff_ne, ne_eq] at h
    exact splitLines_cons b _ h.1.1 h.1.2 _ _ _ (ih h.2)

theorem splitLines_join : ∀ (G : List Bytes), cleanG G = true →
    splitLines (joinLines G) = G.map fun g => (g, [0x0A])
  | [], _ => rfl
  | g :: G, h => by
    simp only [cleanG, List.all_cons, Bool.and_eq_true] at h
    rw [joinLines_cons, splitLines_line g _ h.1, splitLines_join G h.2]
    rfl

theorem exists_add_one {n k : Nat} (h : k + 1 ≤ n) : ∃ m, n = m + 1 := ⟨n - 1, by omega⟩

def nth : List Bytes → Nat → Bytes
  | [], _ => []
  | g :: _, 0 => g
  | _ :: G, k + 1 => nth G k

theorem nth_eq : ∀ (G : List Bytes) (k : Nat), nth G k = G[k]?.getD []
  | [], _ => rfl
  | _ :: _, 0 => rfl
  | _ :: G, k + 1 => by simpa [nth] using nth_eq G k

/-- Offset of the first byte of line number `k` (0-based). -/
def offG : List Bytes → Nat → Nat
  | _, 0 => 0
  | [], _ + 1 => 0
  | g :: G, k + 1 => g.length + 1 + offG G k

theorem lineEntsFrom_get : ∀ (G : List Bytes) (o k : Nat), k < G.length →
    (lineEntsFrom o (G.map fun g => (g, [0x0A])))[k]? = some ⟨o + offG G k, (nth G k).length, 1⟩
  | [], _, _, h => by simp at h
  | g :: G, o, 0, _ => by simp [lineEntsFrom, offG, nth]
  | g :: G, o, k + 1, h => by
    simp only [List.map_cons, lineEntsFrom, List.getElem?_cons_succ, List.length_singleton]
    rw [lineEntsFrom_get G _ k (by simpa using h)]
    simp [offG, nth]
    omega

theorem lineEntsFrom_length : ∀ (L : List (Bytes × Bytes)) (o : Nat), (lineEntsFrom o L).length = L.length
  | [], _ => rfl
  | (c, t) :: ls, o => by simp [lineEntsFrom, lineEntsFrom_length ls]

theorem lineEnts_length (G : List Bytes) (h : cleanG G = true) : (lineEnts (joinLines G)).length = G.length := by
  simp [lineEnts, splitLines_join G h, lineEntsFrom_length]

theorem lineAt_join (G : List Bytes) (h : cleanG G = true) (k : Nat) (hk : k < G.length) :
    lineAt (lineEnts (joinLines G)) (k + 1) = some ⟨offG G k, (nth G k).length, 1⟩ := by
  simp only [lineAt, Nat.add_one_ne_zero, if_false, Nat.add_sub_cancel, lineEnts, splitLines_join G h]
  rw [lineEntsFrom_get G 0 k hk, Nat.zero_add]

theorem spOffsets_join (G : List Bytes) (h : cleanG G = true) (sp : Sp) (a b c : Nat) (ha : a < G.length) (hb : b < G.length)
    (hsl : sp.sl = a + 1) (hel : sp.el = b + 1) (hsc : sp.sc = c + 1) :
    spOffsets (lineEnts (joinLines G)) sp = some (offG G a + c, offG G b + sp.ec) := by
  simp only [spOffsets, hsl, hel, hsc, lineAt_join G h a ha, lineAt_join G h b hb, Nat.add_one_ne_zero, if_false]
  rfl

theorem joinLines_split : ∀ (G : List Bytes) (k : Nat), k < G.length →
    joinLines G = joinLines (G.take k) ++ nth G k ++ 0x0A :: joinLines (G.drop (k + 1)) ∧ (joinLines (G.take k)).length = offG G k
  | [], _, h => by simp at h
  | g :: G, 0, _ => by simp [joinLines_cons, joinLines_nil, nth, offG]
  | g :: G, k + 1, h => by
    obtain ⟨i1, i2⟩ := joinLines_split G k (by simpa using h)
    constructor
    · simp only [List.take_succ_cons, List.drop_succ_cons, joinLines_cons, nth, List.append_assoc, List.cons_append]
      rw [i1]; simp
    · simp only [List.take_succ_cons, joinLines_cons, offG, List.length_append, List.length_cons, i2]; omega


theorem offG_take : ∀ (G : List Bytes) (m k : Nat), k ≤ m → offG (G.take m) k = offG G k
  | _, _, 0, _ => by simp [offG]
  | [], _, _ + 1, _ => by simp
  | g :: G, m + 1, k + 1, h => by simp [offG, offG_take G m k (Nat.le_of_succ_le_succ h)]

theorem nth_take (G : List Bytes) (m k : Nat) (h : k < m) : nth (G.take m) k = nth G k := by
  rw [nth_eq, nth_eq, List.getElem?_take, if_pos h]

def lenAt (G : List Bytes) (l : Nat) : Nat := (nth G (l - 1)).length

/-- A span that lies in the source, in terms of the lines. -/
structure Valid (G : List Bytes) (sp : Sp) : Prop where
  l1 : 1 ≤ sp.sl
  l2 : sp.sl ≤ sp.el
  l3 : sp.el ≤ G.length
  c1 : 1 ≤ sp.sc
  c2 : sp.sc ≤ lenAt G sp.sl + 1
  c3 : (1 ≤ sp.ec ∧ sp.ec ≤ lenAt G sp.el + 1) ∨ (sp.ec = 0 ∧ lenAt G sp.el = 0)
  c4 : sp.sl < sp.el ∨ (sp.sl = sp.el ∧ (sp.sc ≤ sp.ec ∨ (sp.ec = 0 ∧ sp.sc = 1)))

theorem range_of_valid (G : List Bytes) (h : cleanG G = true) (sp : Sp) (v : Valid G sp) :
    spRangeFail (lineEnts (joinLines G)) sp = none := by
  obtain ⟨l1, l2, l3, c1, c2, c3, c4⟩ := v
  obtain ⟨a, ha⟩ := exists_add_one l1
  obtain ⟨b, hb⟩ := exists_add_one (Nat.le_trans l1 l2)
  simp only [lenAt, ha, hb, Nat.add_sub_cancel] at c2 c3
  have haG : a + 1 ≤ G.length := by rw [← ha]; exact Nat.le_trans l2 l3
  have hbG : b + 1 ≤ G.length := by rw [← hb]; exact l3
  have e1 : spLinesOk (lineEnts (joinLines G)) sp = true := by
    simp [spLinesOk, lineEnts_length G h, l1, l2, l3]
  have e2 : spStartColOk (lineEnts (joinLines G)) sp = true := by
    simp only [spStartColOk, ha, lineAt_join G h a haG, LineEnt.maxCol, Nat.one_ne_zero, if_false, Bool.and_eq_true,
      decide_eq_true_eq]
    omega
  have e3 : spEndColOk (lineEnts (joinLines G)) sp = true := by
    simp only [spEndColOk, hb, lineAt_join G h b hbG, LineEnt.maxCol, Nat.one_ne_zero, if_false, Bool.or_eq_true,
      Bool.and_eq_true, decide_eq_true_eq]
    omega
  have e4 : spStartLeEnd sp = true := by
    simp only [spStartLeEnd]; simp; omega
  simp [spRangeFail, e1, e2, e3, e4]

theorem sliceLT_mid (lt : List LineEnt) (sp : Sp) (A X B : Bytes) (a b : Nat) (ho : spOffsets lt sp = some (a, b))
    (ha : a = A.length) (hb : b = A.length + X.length) : sliceLT lt (A ++ X ++ B) sp = some X := by
  subst ha hb
  simp [sliceLT, ho]

theorem slice_line (G : List Bytes) (h : cleanG G = true) (l : Nat) (h1 : 1 ≤ l) (h2 : l ≤ G.length)
    (P X R : Bytes) (hg : nth G (l - 1) = P ++ X ++ R) (sp : Sp)
    (e1 : sp.sl = l) (e2 : sp.el = l) (e3 : sp.sc = P.length + 1) (e4 : sp.ec = P.length + X.length) :
    sliceLT (lineEnts (joinLines G)) (joinLines G) sp = some X := by
  obtain ⟨k, rfl⟩ := exists_add_one h1
  rw [Nat.add_sub_cancel] at hg
  obtain ⟨hs, hl⟩ := joinLines_split G k h2
  have ho := spOffsets_join G h sp k k P.length h2 h2 e1 e2 e3
  have e : joinLines G = (joinLines (G.take k) ++ P) ++ X ++ (R ++ 0x0A :: joinLines (G.drop (k + 1))) := by
    rw [hs, hg]; simp only [List.append_assoc]
  rw [e]
  exact sliceLT_mid _ sp _ X _ _ _ (e ▸ ho) (by rw [List.length_append, hl]) (by rw [List.length_append, hl, e4]; omega)

theorem slice_multi (G : List Bytes) (h : cleanG G = true) (sp : Sp) (h1 : 1 ≤ sp.sl) (h2 : sp.sl < sp.el)
    (h3 : sp.el ≤ G.length) (P U W R : Bytes) (hs : nth G (sp.sl - 1) = P ++ U) (he : nth G (sp.el - 1) = W ++ R)
    (e3 : sp.sc = P.length + 1) (e4 : sp.ec = W.length) :
    sliceLT (lineEnts (joinLines G)) (joinLines G) sp =
      some (U ++ 0x0A :: joinLines ((G.take (sp.el - 1)).drop sp.sl) ++ W) := by
  obtain ⟨a, ha⟩ := exists_add_one h1
  obtain ⟨b, hb⟩ := exists_add_one h2
  rw [ha, hb] at h2
  rw [hb] at h3
  have hab : a < b := Nat.lt_of_succ_lt_succ h2
  rw [ha, Nat.add_sub_cancel] at hs
  rw [hb, Nat.add_sub_cancel] at he
  rw [ha, hb, Nat.add_sub_cancel]
  obtain ⟨sb, lb⟩ := joinLines_split G b h3
  obtain ⟨sa, la⟩ := joinLines_split (G.take b) a (by rw [List.length_take, Nat.min_eq_left (Nat.le_of_lt h3)]; exact hab)
  rw [nth_take G b a hab, hs] at sa
  rw [offG_take G b a (Nat.le_of_lt hab)] at la
  have ho := spOffsets_join G h sp a b P.length (Nat.lt_trans hab h3) h3 ha hb e3
  have e : joinLines G = (joinLines ((G.take b).take a) ++ P) ++ (U ++ 0x0A :: joinLines ((G.take b).drop (a + 1)) ++ W) ++
      (R ++ 0x0A :: joinLines (G.drop (b + 1))) := by
    rw [sb, sa, he]; simp only [List.append_assoc, List.cons_append]
  rw [sa] at lb
  simp only [List.length_append, List.length_cons] at lb
  rw [e]
  exact sliceLT_mid _ sp _ _ _ _ _ (e ▸ ho) (by rw [List.length_append, la])
    (by simp only [List.length_append, List.length_cons, la, e4]; omega)

end Comrak.Canon
