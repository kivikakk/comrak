/-
Positions of canonical documents, layer B: inline content `x` written from a position `p` on into
the lines `G` (`Reg`), the spans `spanOf` claims for it, and their slices.
-/
import Comrak.Lemmas.CanonPosA
namespace Comrak.Canon
open Comrak Bytes

def step (c0 : Nat) (p : Pos) (b : UInt8) : Pos := if b = 0x0A then (p.1 + 1, c0) else (p.1, p.2 + 1)

theorem adv_nil (c0 : Nat) (p : Pos) : adv c0 p [] = p := rfl
theorem adv_cons (c0 : Nat) (p : Pos) (b : UInt8) (r : Bytes) : adv c0 p (b :: r) = adv c0 (step c0 p b) r := rfl
theorem adv_append (c0 : Nat) (p : Pos) (a b : Bytes) : adv c0 p (a ++ b) = adv c0 (adv c0 p a) b := by
  simp [adv, List.foldl_append]

def nlFree (x : Bytes) : Bool := x.all fun b => b != 0x0A

theorem nlFree_append (a b : Bytes) : nlFree (a ++ b) = (nlFree a && nlFree b) := by simp [nlFree]

theorem nlFree_dropLast (x : Bytes) (h : nlFree x = true) : nlFree x.dropLast = true := by
  simp only [nlFree, List.all_eq_true] at h ⊢
  exact fun b hb => h b (List.dropLast_subset x hb)

theorem adv_nlFree (c0 : Nat) : ∀ (x : Bytes) (p : Pos), nlFree x = true → adv c0 p x = (p.1, p.2 + x.length)
  | [], _, _ => rfl
  | b :: r, p, h => by
    simp only [nlFree, List.all_cons, Bool.and_eq_true, bne_iff_ne, ne_eq] at h
    rw [adv_cons, step, if_neg h.1, adv_nlFree c0 r _ h.2, List.length_cons, Nat.add_assoc, Nat.add_comm 1]

theorem adv_line (c0 : Nat) : ∀ (x : Bytes) (p : Pos), (adv c0 p x).1 = p.1 + x.count 0x0A
  | [], p => by simp [adv_nil]
  | b :: r, p => by
    rw [adv_cons, adv_line c0 r]
    by_cases hb : b = 0x0A
    · subst hb; simp [step]; omega
    · simp [step, hb]

theorem count_zero_nlFree (x : Bytes) (h : x.count 0x0A = 0) : nlFree x = true := by
  have hm := List.count_eq_zero.mp h
  simp only [nlFree, List.all_eq_true, bne_iff_ne, ne_eq]
  intro b hb e
  subst e
  exact hm hb

theorem posLt_step (c0 : Nat) (p : Pos) (b : UInt8) : posLt p.1 p.2 (step c0 p b).1 (step c0 p b).2 = true := by
  unfold step posLt
  split <;> simp

theorem adv_le (c0 : Nat) : ∀ (x : Bytes) (p : Pos), posLe p.1 p.2 (adv c0 p x).1 (adv c0 p x).2 = true
  | [], p => posLe_refl _ _
  | b :: r, p => by
    rw [adv_cons]
    exact posLe_trans (posLe_of_posLt (posLt_step c0 p b)) (adv_le c0 r _)

theorem adv_lt (c0 : Nat) (x : Bytes) (p : Pos) (h : x ≠ []) : posLt p.1 p.2 (adv c0 p x).1 (adv c0 p x).2 = true := by
  cases x with
  | nil => exact absurd rfl h
  | cons b r => rw [adv_cons]; exact posLt_of_lt_le (posLt_step c0 p b) (adv_le c0 r _)

theorem dropLast_append_last (x : Bytes) (h : x ≠ []) : ∃ b, x = x.dropLast ++ [b] :=
  ⟨x.getLast h, (List.dropLast_concat_getLast h).symm⟩

theorem adv_dropLast_le (c0 : Nat) (p : Pos) (a b : Bytes) (ha : a ≠ []) :
    posLe (adv c0 p a.dropLast).1 (adv c0 p a.dropLast).2 (adv c0 p (a ++ b).dropLast).1 (adv c0 p (a ++ b).dropLast).2 = true := by
  by_cases hb : b = []
  · rw [hb, List.append_nil]; exact posLe_refl _ _
  · obtain ⟨x, hx⟩ := dropLast_append_last a ha
    have e : (a ++ b).dropLast = a.dropLast ++ ([x] ++ b.dropLast) := by
      rw [List.dropLast_append_of_ne_nil hb]
      conv => lhs; rw [hx]
      simp
    rw [e, adv_append]
    exact adv_le c0 _ _

/-- A cursor position: on a line of the source, at most one past its last byte. -/
def Cur (G : List Bytes) (p : Pos) : Prop :=
  1 ≤ p.1 ∧ p.1 ≤ G.length ∧ 1 ≤ p.2 ∧ p.2 ≤ lenAt G p.1 + 1

/-- The bytes `x`, written from `p` on, are in the source: every byte other than a line end stands
    at its position, every position passed is a cursor position. -/
def Reg (G : List Bytes) (c0 : Nat) : Pos → Bytes → Prop
  | p, [] => Cur G p
  | p, b :: r =>
    Cur G p ∧ (b ≠ 0x0A → ((nth G (p.1 - 1)).drop (p.2 - 1)).head? = some b) ∧ Reg G c0 (step c0 p b) r

theorem reg_cur {G : List Bytes} {c0 : Nat} {p : Pos} {x : Bytes} (h : Reg G c0 p x) : Cur G p := by
  cases x with
  | nil => exact h
  | cons b r => exact h.1

theorem reg_append {G : List Bytes} {c0 : Nat} : ∀ {a b : Bytes} {p : Pos}, Reg G c0 p (a ++ b) →
    Reg G c0 p a ∧ Reg G c0 (adv c0 p a) b
  | [], b, p, h => ⟨reg_cur h, by simpa [adv_nil] using h⟩
  | x :: a, b, p, h => by
    obtain ⟨h1, h2, h3⟩ := h
    obtain ⟨i1, i2⟩ := reg_append (a := a) (b := b) h3
    exact ⟨⟨h1, h2, i1⟩, by rw [adv_cons]; exact i2⟩

theorem reg_cur_end {G : List Bytes} {c0 : Nat} {p : Pos} {x : Bytes} (h : Reg G c0 p x) : Cur G (adv c0 p x) :=
  (reg_append (a := x) (b := []) (by simpa using h)).2

theorem reg_at {G : List Bytes} {c0 : Nat} : ∀ {u rest : Bytes} {p : Pos}, Reg G c0 p (u ++ rest) → nlFree u = true →
    ∃ R, (nth G (p.1 - 1)).drop (p.2 - 1) = u ++ R
  | [], _, p, _, _ => ⟨_, rfl⟩
  | b :: u, rest, p, h, hn => by
    simp only [nlFree, List.all_cons, Bool.and_eq_true, bne_iff_ne, ne_eq] at hn
    obtain ⟨hcur, h2, h3⟩ := h
    have hb := h2 hn.1
    have hs : step c0 p b = (p.1, p.2 + 1) := by simp [step, hn.1]
    rw [hs] at h3
    obtain ⟨R, hR⟩ := reg_at (u := u) (rest := rest) h3 hn.2
    simp only at hR
    have hc : 1 ≤ p.2 := hcur.2.2.1
    cases hd : (nth G (p.1 - 1)).drop (p.2 - 1) with
    | nil => simp [hd] at hb
    | cons y t =>
      simp only [hd, List.head?_cons, Option.some.injEq] at hb
      subst hb
      have : (nth G (p.1 - 1)).drop (p.2 + 1 - 1) = t := by
        have e : p.2 + 1 - 1 = (p.2 - 1) + 1 := by omega
        rw [e, ← List.drop_drop, hd]; rfl
      rw [this] at hR
      exact ⟨R, by simp [hR]⟩

theorem reg_at' {G : List Bytes} {c0 : Nat} {u rest : Bytes} {p : Pos} (h : Reg G c0 p (u ++ rest)) (hn : nlFree u = true) :
    ∃ P R, nth G (p.1 - 1) = P ++ u ++ R ∧ P.length + 1 = p.2 := by
  obtain ⟨R, hR⟩ := reg_at h hn
  have hc := reg_cur h
  refine ⟨(nth G (p.1 - 1)).take (p.2 - 1), R, ?_, ?_⟩
  · rw [List.append_assoc, ← hR, List.take_append_drop]
  · have := hc.2.2.2
    have h1 := hc.2.2.1
    simp only [lenAt] at this
    rw [List.length_take, Nat.min_eq_left (by omega)]; omega

theorem cur_of_line {G : List Bytes} {l : Nat} (h1 : 1 ≤ l) (h2 : l ≤ G.length) {P S : Bytes} (hg : nth G (l - 1) = P ++ S) :
    Cur G (l, P.length + 1) := by
  refine ⟨h1, h2, Nat.le_add_left 1 _, ?_⟩
  show P.length + 1 ≤ (nth G (l - 1)).length + 1
  rw [hg, List.length_append]
  omega

theorem reg_of_line {G : List Bytes} {c0 : Nat} (l : Nat) (h1 : 1 ≤ l) (h2 : l ≤ G.length) :
    ∀ (x P R : Bytes), nth G (l - 1) = P ++ x ++ R → nlFree x = true → Reg G c0 (l, P.length + 1) x
  | [] => fun P R hg _ => cur_of_line h1 h2 (hg.trans (List.append_assoc P [] R))
  | b :: x => fun P R hg hn => by
    simp only [nlFree, List.all_cons, Bool.and_eq_true, bne_iff_ne, ne_eq] at hn
    refine ⟨cur_of_line h1 h2 (hg.trans (List.append_assoc P _ R)), fun _ => by simp [hg], ?_⟩
    have hs : step c0 (l, P.length + 1) b = (l, (P ++ [b]).length + 1) := by simp [step, hn.1]
    rw [hs]
    exact reg_of_line l h1 h2 x (P ++ [b]) R (by simp [hg]) hn.2

/-- The lines `ls` of a block stand on the lines `l, l+1, ..` of the source, the first one from
    column `c` on, the others from column `c0` on, each up to the end of its line; nothing is said
    about an empty line (the containers do not indent it). -/
def Emb (G : List Bytes) (c0 : Nat) : Nat → Nat → List Bytes → Prop
  | _, _, [] => True
  | l, c, x :: rest =>
    (x ≠ [] → 1 ≤ l ∧ l ≤ G.length ∧ ∃ P, nth G (l - 1) = P ++ x ∧ P.length + 1 = c) ∧ Emb G c0 (l + 1) c0 rest

theorem splitNl_ne_nil : ∀ (s : Bytes), splitNl s ≠ []
  | [] => by simp [splitNl]
  | b :: r => by
    simp only [splitNl]
    cases splitNl r with
    | nil => simp
    | cons l ls => by_cases hb : b = 0x0A <;> simp [hb]

theorem splitNl_nl (r : Bytes) : splitNl (0x0A :: r) = [] :: splitNl r := by
  have := splitNl_ne_nil r
  simp only [splitNl]
  split
  · contradiction
  · simp_all

theorem splitNl_other (b : UInt8) (r : Bytes) (hb : b ≠ 0x0A) :
    splitNl (b :: r) = (b :: (splitNl r).headD []) :: (splitNl r).tail := by
  have := splitNl_ne_nil r
  simp only [splitNl]
  split
  · contradiction
  · rename_i l ls e
    simp [hb, e]

def allNonempty (ls : List Bytes) : Bool := ls.all fun x => !x.isEmpty

theorem allNonempty_cons (x : Bytes) (t : List Bytes) : allNonempty (x :: t) = true ↔ x ≠ [] ∧ allNonempty t = true := by
  simp [allNonempty]

theorem reg_of_emb {G : List Bytes} {c0 : Nat} : ∀ (s : Bytes) (l c : Nat), Cur G (l, c) →
    Emb G c0 l c (splitNl s) → allNonempty (splitNl s).tail = true → Reg G c0 (l, c) s
  | [] => fun _ _ hc _ _ => hc
  | b :: r => fun l c hc he ht => by
    by_cases hb : b = 0x0A
    · subst hb
      rw [splitNl_nl] at he ht
      simp only [List.tail_cons] at ht
      have hne := splitNl_ne_nil r
      cases hs : splitNl r with
      | nil => exact absurd hs hne
      | cons x t =>
        rw [hs] at he ht
        rw [allNonempty_cons] at ht
        obtain ⟨g1, g2, P, gP, gl⟩ := he.2.1 ht.1
        have hc2 : Cur G (l + 1, c0) := gl ▸ cur_of_line g1 g2 gP
        refine ⟨hc, fun h => absurd rfl h, ?_⟩
        have hst : step c0 (l, c) 0x0A = (l + 1, c0) := by simp [step]
        rw [hst]
        refine reg_of_emb r (l + 1) c0 hc2 (by rw [hs]; exact he.2) ?_
        rw [hs]; exact ht.2
    · rw [splitNl_other b r hb] at he ht
      simp only [List.tail_cons] at ht
      obtain ⟨g1, g2, P, gP, gl⟩ := he.1 (by simp)
      have hst : step c0 (l, c) b = (l, c + 1) := by simp [step, hb]
      refine ⟨hc, fun _ => ?_, ?_⟩
      · have : c - 1 = P.length := by omega
        simp [this, gP]
      · rw [hst]
        have hc2 : Cur G (l, c + 1) := by
          have := cur_of_line g1 g2 (P := P ++ [b]) (S := (splitNl r).headD []) (by rw [gP]; simp)
          rwa [List.length_append, List.length_singleton, gl] at this
        refine reg_of_emb r l (c + 1) hc2 ?_ ?_
        · have hne := splitNl_ne_nil r
          cases hs : splitNl r with
          | nil => exact absurd hs hne
          | cons x t =>
            rw [hs] at he
            simp only [List.headD_cons, List.tail_cons] at he
            refine ⟨fun hx => ⟨g1, g2, P ++ [b], by simp [gP, hs], by simp only [List.length_append, List.length_cons, List.length_nil]; omega⟩, he.2⟩
        · exact ht

theorem valid_of_reg {G : List Bytes} {c0 : Nat} {p : Pos} {x : Bytes} (h : Reg G c0 p x) (hx : x ≠ []) :
    Valid G (spanOf c0 p x) := by
  obtain ⟨b, hb⟩ := dropLast_append_last x hx
  have hr : Reg G c0 p (x.dropLast ++ [b]) := by rw [← hb]; exact h
  have he := reg_cur (reg_append hr).2
  have hs := reg_cur h
  have hle := posLe_iff.mp (adv_le c0 x.dropLast p)
  obtain ⟨s1, s2, s3, s4⟩ := hs
  obtain ⟨e1, e2, e3, e4⟩ := he
  exact ⟨s1, by simp only [spanOf]; omega, e2, s3, s4, Or.inl ⟨e3, e4⟩, by simp only [spanOf]; omega⟩

theorem slice_of_reg_line {G : List Bytes} (hG : cleanG G = true) {c0 : Nat} {p : Pos} {x : Bytes}
    (h : Reg G c0 p x) (hn : nlFree x = true) (hx : x ≠ []) :
    sliceLT (lineEnts (joinLines G)) (joinLines G) (spanOf c0 p x) = some x := by
  obtain ⟨P, R, hg, hl⟩ := reg_at' (u := x) (rest := []) (by simpa using h) hn
  have hc := reg_cur h
  have hd := nlFree_dropLast x hn
  have hlen : x.dropLast.length = x.length - 1 := by simp
  have hpos : 0 < x.length := List.length_pos_iff.mpr hx
  refine slice_line G hG p.1 hc.1 hc.2.1 P x R hg _ ?_ ?_ ?_ ?_
  · simp [spanOf]
  · simp [spanOf, adv_nlFree c0 _ _ hd]
  · simp [spanOf]; omega
  · simp [spanOf, adv_nlFree c0 _ _ hd, hlen]; omega

theorem slice_of_reg {G : List Bytes} (hG : cleanG G = true) {c0 : Nat} {p : Pos} {u v w : Bytes}
    (h : Reg G c0 p (u ++ v ++ w)) (hu : nlFree u = true) (hw : nlFree w = true) (hu0 : u ≠ []) (hw0 : w ≠ []) :
    ∃ mid, sliceLT (lineEnts (joinLines G)) (joinLines G) (spanOf c0 p (u ++ v ++ w)) = some (u ++ mid ++ w) := by
  by_cases hv : nlFree v = true
  · refine ⟨v, slice_of_reg_line hG h ?_ (by simp [hu0])⟩
    simp [nlFree_append, hu, hv, hw]
  · have hx0 : u ++ v ++ w ≠ [] := by simp [hu0]
    obtain ⟨b, hb⟩ := dropLast_append_last w hw0
    have hwd := nlFree_dropLast w hw
    have hdl : (u ++ v ++ w).dropLast = u ++ v ++ w.dropLast := by
      rw [List.dropLast_append_of_ne_nil hw0]
    have hq := (reg_append h).2
    obtain ⟨Pp, Ru, gp, lp⟩ := reg_at' (u := u) (rest := v ++ w) (by simpa using h) hu
    obtain ⟨Pq, Rw, gq, lq⟩ := reg_at' (u := w) (rest := []) (by simpa using hq) hw
    have hcp := reg_cur h
    have hcq := reg_cur hq
    have hline : (adv c0 p (u ++ v)).1 = p.1 + (u ++ v).count 0x0A := adv_line c0 _ p
    have hcnt : 0 < (u ++ v).count 0x0A :=
      Nat.pos_of_ne_zero fun h0 => hv (by simpa [nlFree_append, hu] using count_zero_nlFree _ h0)
    have hend : adv c0 p (u ++ v ++ w).dropLast = ((adv c0 p (u ++ v)).1, (adv c0 p (u ++ v)).2 + w.dropLast.length) := by
      rw [hdl, adv_append, adv_nlFree c0 _ _ hwd]
    have hwl : w.dropLast.length + 1 = w.length := by
      have := List.length_pos_iff.mpr hw0; simp only [List.length_dropLast]; omega
    have := slice_multi G hG (spanOf c0 p (u ++ v ++ w)) hcp.1
      (by simp only [spanOf, hend]; omega) (by simp only [spanOf, hend]; exact hcq.2.1)
      Pp (u ++ Ru) (Pq ++ w) Rw (by simp only [spanOf]; rw [gp]; simp)
      (by simp only [spanOf, hend]; rw [gq]) (by simp [spanOf, lp])
      (by simp only [spanOf, hend, List.length_append]; omega)
    exact ⟨Ru ++ 0x0A :: joinLines (List.drop (spanOf c0 p (u ++ v ++ w)).sl (List.take ((spanOf c0 p (u ++ v ++ w)).el - 1) G)) ++ Pq,
      by rw [this]; simp⟩

end Comrak.Canon
