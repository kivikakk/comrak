/-
Lemmas for C14.  At most one blacklisted name matches a given input, so the loop's "first matching name decides" is
the specification's "some name matches and a delimiter follows" (`blacklist_unique`, `find_eq_any`); and the decision
at a `<` reads nothing at or behind the next `<` or `&` (`disallowedAtW_append_cut`), which makes the block filter
local.
-/
import Comrak.TagFilter
namespace Comrak
open Bytes

theorem isPrefixCI_length (p s : Bytes) (h : isPrefixCI p s = true) : p.length ≤ s.length := by
  induction p generalizing s with
  | nil => simp
  | cons a p ih =>
    cases s with
    | nil => simp [isPrefixCI] at h
    | cons b s =>
      simp only [isPrefixCI, Bool.and_eq_true] at h
      simp only [List.length_cons]
      have := ih s h.2
      omega

theorem delimAt_getD (l : Bytes) (j : Nat) :
    (delimAt l j).getD false = tagDelimW htmlSpace (l.drop j) := by
  induction l generalizing j with
  | nil => simp [delimAt, tagDelimW]
  | cons c r ih =>
    cases j with
    | zero => cases r <;> simp [delimAt, tagDelimW]
    | succ k =>
      rw [List.drop_succ_cons, ← ih k]
      simp only [delimAt, List.getElem?_cons_succ, List.length_cons]
      cases r[k]? with
      | none => rfl
      | some c' =>
        have e : (r.length + 1 ≥ k + 1 + 2) = (r.length ≥ k + 2) := by
          apply propext; omega
        simp only [e]

theorem toLowerAscii_cases (c : UInt8) :
    toLowerAscii c = c ∨
      (0x41 ≤ c.toNat ∧ c.toNat ≤ 0x5A ∧ (toLowerAscii c).toNat = c.toNat + 0x20) := by
  unfold toLowerAscii
  split
  · rename_i h
    simp only [Bool.and_eq_true, decide_eq_true_eq, UInt8.le_iff_toNat_le, UInt8.toNat_ofNat,
      Nat.reducePow, Nat.reduceMod] at h
    refine .inr ⟨h.1, h.2, ?_⟩
    simp only [UInt8.toNat_add, UInt8.toNat_ofNat, Nat.reducePow, Nat.reduceMod]
    omega
  · exact .inl rfl

theorem isPrefixCI_zip (a b s : Bytes) (ha : isPrefixCI a s = true) (hb : isPrefixCI b s = true) :
    (a.zip b).all (fun p => p.1 == p.2) = true := by
  induction a generalizing b s with
  | nil => rfl
  | cons x a ih =>
    cases b with
    | nil => rfl
    | cons y b =>
      cases s with
      | nil => simp [isPrefixCI] at ha
      | cons z s =>
        simp only [isPrefixCI, Bool.and_eq_true, beq_iff_eq] at ha hb
        simp [ha.1, hb.1, ih b s ha.2 hb.2]

/-- No two blacklisted names agree on their common length: at most one matches, and "first match" = "any match". -/
theorem blacklist_zip_free : ∀ a ∈ tagBlacklist, ∀ b ∈ tagBlacklist,
    (a.zip b).all (fun p => p.1 == p.2) = true → a = b := by decide +kernel

theorem blacklist_unique (s : Bytes) (a b : Bytes) (ha : a ∈ tagBlacklist) (hb : b ∈ tagBlacklist)
    (pa : isPrefixCI a s = true) (pb : isPrefixCI b s = true) : a = b :=
  blacklist_zip_free a ha b hb (isPrefixCI_zip a b s pa pb)

theorem find_eq_any (bl : List Bytes) (P : Bytes → Bool) (D : Bytes → Bool)
    (uniq : ∀ a ∈ bl, ∀ b ∈ bl, P a = true → P b = true → a = b) :
    (match bl.find? P with | none => false | some t => D t) = bl.any (fun n => P n && D n) := by
  cases hf : bl.find? P with
  | none =>
    have := List.find?_eq_none.mp hf
    exact (List.any_eq_false.mpr fun n hn hpd => this n hn (Bool.and_eq_true_iff.mp hpd).1).symm
  | some t =>
    have ht := List.find?_some hf
    have hm := List.mem_of_find?_eq_some hf
    rw [Bool.eq_iff_iff, List.any_eq_true]
    refine ⟨fun hd => ⟨t, hm, Bool.and_eq_true_iff.mpr ⟨ht, hd⟩⟩, fun ⟨n, hn, hpd⟩ => ?_⟩
    have ⟨hp, hd⟩ := Bool.and_eq_true_iff.mp hpd
    exact uniq t hm n hn ht hp ▸ hd

theorem blacklist_min_len : ∀ t ∈ tagBlacklist, 3 ≤ t.length := by decide

theorem stripSlash_eq_drop (r : Bytes) :
    stripSlash r = (0x3C :: r).drop (if (0x3C :: r)[1]? == some 0x2F then 2 else 1) := by
  cases r with
  | nil => rfl
  | cons c t => by_cases hc : c = 0x2F <;> simp [stripSlash, hc]

theorem disallowedAtW_short (sp : UInt8 → Bool) (r : Bytes) (h : r.length < 2) :
    disallowedAtW sp (0x3C :: r) = false := by
  have hle : (stripSlash r).length ≤ r.length := by
    unfold stripSlash
    split
    · split <;> simp
    · simp
  simp only [disallowedAtW, if_true, List.any_eq_false, Bool.and_eq_true, not_and]
  intro n hn hp
  have := blacklist_min_len n hn
  have := isPrefixCI_length _ _ hp
  omega

/-- Form feed is the only byte on which the two white-space classes differ. -/
theorem htmlSpace_eq_isSpace (c : UInt8) (h : c ≠ 0x0C) : htmlSpace c = isSpace c := by
  have : (c == 0x0C) = false := beq_eq_false_iff_ne.mpr h
  simp only [htmlSpace, isSpace, this, Bool.or_false]

theorem tagDelimW_congr (s : Bytes) (h : (0x0C : UInt8) ∉ s) : tagDelimW htmlSpace s = tagDelimW isSpace s := by
  cases s with
  | nil => rfl
  | cons c r =>
    have : c ≠ 0x0C := fun e => h (by simp [e])
    simp [tagDelimW, htmlSpace_eq_isSpace c this]

theorem disallowedAt_eq_disallowedAtC (s : Bytes) (h : (0x0C : UInt8) ∉ s) : disallowedAt s = disallowedAtC s := by
  unfold disallowedAt disallowedAtC disallowedAtW
  cases s with
  | nil => rfl
  | cons c r =>
    simp only
    split
    · rename_i hc
      congr 1
      funext name
      rw [tagDelimW_congr _ fun hm => h ?_]
      rw [stripSlash_eq_drop] at hm
      exact hc ▸ List.mem_of_mem_drop (List.mem_of_mem_drop hm)
    · rfl

theorem isPrefixCI_append_cut (name u t : Bytes) (x : UInt8) (hn : ∀ c ∈ name, c ≠ toLowerAscii x) :
    isPrefixCI name (u ++ x :: t) = isPrefixCI name u := by
  induction name generalizing u with
  | nil => simp [isPrefixCI]
  | cons a p ih =>
    cases u with
    | nil => simp [isPrefixCI, hn a (by simp)]
    | cons b s => simp [isPrefixCI, ih s fun c hc => hn c (by simp [hc])]

theorem tagDelimW_append_cut (sp : UInt8 → Bool) (x : UInt8) (hsp : sp x = false) (hgt : x ≠ 0x3E)
    (hsl : x ≠ 0x2F) (d t : Bytes) : tagDelimW sp (d ++ x :: t) = tagDelimW sp d := by
  match d with
  | [] => simp [tagDelimW, hsp, hgt, hsl]
  | [c] => simp [tagDelimW, hgt]
  | c :: e :: r => simp [tagDelimW]

theorem stripSlash_append_cut (r t : Bytes) (x : UInt8) (hsl : x ≠ 0x2F) :
    stripSlash (r ++ x :: t) = stripSlash r ++ x :: t := by
  cases r with
  | nil => simp [stripSlash, hsl]
  | cons c r' => by_cases h : c = 0x2F <;> simp [stripSlash, h]

theorem any_congr_mem {α} (l : List α) (f g : α → Bool) (h : ∀ x ∈ l, f x = g x) : l.any f = l.any g := by
  induction l with
  | nil => rfl
  | cons a r ih =>
    simp only [List.any_cons, h a (by simp), ih (fun x hx => h x (by simp [hx]))]

theorem blacklist_no_cut (x : UInt8) (hx : x = 0x3C ∨ x = 0x26) :
    ∀ name ∈ tagBlacklist, ∀ c ∈ name, c ≠ toLowerAscii x := by
  rcases hx with rfl | rfl <;> decide

/-- Neither `<` nor `&` occurs in a name, is a delimiter, or completes `/>`; so whatever stands behind one of
    them (as a mismatch, a non-delimiter, or out of reach) is not looked at. -/
theorem disallowedAtW_append_cut (sp : UInt8 → Bool) (x : UInt8) (hx : x = 0x3C ∨ x = 0x26)
    (hsp : sp x = false) (c : UInt8) (r t : Bytes) :
    disallowedAtW sp (c :: (r ++ x :: t)) = disallowedAtW sp (c :: r) := by
  have hgt : x ≠ 0x3E := by rcases hx with rfl | rfl <;> decide
  have hsl : x ≠ 0x2F := by rcases hx with rfl | rfl <;> decide
  simp only [disallowedAtW]
  split
  · rw [stripSlash_append_cut _ _ _ hsl]
    apply any_congr_mem
    intro name hname
    rw [isPrefixCI_append_cut _ _ _ _ (blacklist_no_cut x hx name hname)]
    by_cases hp : isPrefixCI name (stripSlash r) = true
    · rw [List.drop_append_of_le_length (isPrefixCI_length _ _ hp), tagDelimW_append_cut sp x hsp hgt hsl]
    · simp [hp]
  · rfl

theorem rewriteSpecW_append_lt (sp : UInt8 → Bool) (hsp : sp 0x3C = false) (p t : Bytes) :
    rewriteSpecW sp (p ++ 0x3C :: t) = rewriteSpecW sp p ++ rewriteSpecW sp (0x3C :: t) := by
  induction p with
  | nil => simp [rewriteSpecW]
  | cons b r ih =>
    simp only [List.cons_append, rewriteSpecW, disallowedAtW_append_cut sp 0x3C (.inl rfl) hsp b r t, ih,
      List.append_assoc]

end Comrak
