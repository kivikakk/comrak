/-
Positions of canonical documents, layer J: in a table cell that satisfies `cellWf`, every `|` is
preceded by a backslash (the clause of the C12 oracle for table cells).
-/
import Comrak.Lemmas.CanonPosI
namespace Comrak.Canon
open Comrak Bytes

def noPipe (s : Bytes) : Bool := s.all fun b => b != 0x7C

theorem noPipe_append (a b : Bytes) : noPipe (a ++ b) = (noPipe a && noPipe b) := by simp [noPipe]

def pipeSafe (s : Bytes) : Prop := ∀ p, hasBarePipe p s = false

theorem pipeSafe_nil : pipeSafe [] := fun _ => rfl

theorem pipeSafe_of_noPipe : ∀ (s : Bytes), noPipe s = true → pipeSafe s
  | [], _, _ => rfl
  | c :: r, h, p => by
    simp only [noPipe, List.all_cons, Bool.and_eq_true, bne_iff_ne, ne_eq] at h
    unfold hasBarePipe
    rw [pipeSafe_of_noPipe r h.2 c, beq_false_of_ne h.1]
    rfl

theorem pipeSafe_esc : pipeSafe [0x5C, 0x7C] := fun _ => rfl

/-- Whether a `|` is bare depends on the byte after it only if there is none: a byte appended after the
    last one can only make it safe. -/
theorem safe_append : ∀ (a b : Bytes) (p : UInt8), hasBarePipe p a = false → pipeSafe b → hasBarePipe p (a ++ b) = false
  | [], b, p, _, hb => hb p
  | c :: r, b, p, ha, hb => by
    simp only [hasBarePipe, Bool.or_eq_false_iff] at ha
    simp only [List.cons_append, hasBarePipe, Bool.or_eq_false_iff]
    refine ⟨?_, safe_append r b c ha.2 hb⟩
    cases r with
    | nil =>
      have hx : (c == 0x7C && p != 0x5C && p != 0x7C && p != 0x27) = false := by simpa using ha.1
      simp only [hx, Bool.false_and]
    | cons d t => exact ha.1

theorem pipeSafe_append (a b : Bytes) (ha : pipeSafe a) (hb : pipeSafe b) : pipeSafe (a ++ b) :=
  fun p => safe_append a b p (ha p) hb

theorem noPipe_of_all (s : Bytes) (q : UInt8 → Bool) (h1 : q 0x7C = false) (h : s.all q = true) : noPipe s = true :=
  all_class (fun c hc => by simpa using ne_of_class h1 hc) h

theorem markup_noPipe (s : Bytes) (h : s.all markupChar = true) : noPipe s = true :=
  noPipe_of_all s markupChar (by decide) h

def atomPipe (a : Atom) : Bool := noPipe a.src || a.src == [0x5C, 0x7C]

theorem ent_pipe : (List.range entTable.length).all (fun i => atomPipe (.ent i)) = true := by decide +kernel
theorem uni_pipe : (List.range uniTable.length).all (fun i => atomPipe (.uni i)) = true := by decide +kernel

theorem pipeSafe_of_atomPipe (a : Atom) (hf : atomPipe a = true) : pipeSafe a.src := by
  simp only [atomPipe, Bool.or_eq_true, beq_iff_eq] at hf
  rcases hf with hf | hf
  · exact pipeSafe_of_noPipe _ hf
  · rw [hf]; exact pipeSafe_esc

/-- The only atom with a `|` in its spelling is the escaped pipe. -/
theorem atom_pipe (a : Atom) (h : a.ok = true) : pipeSafe a.src := by
  cases a with
  | ch c =>
    have h1 := ne_of_class (q := fun c => isAsciiAlnum c || c == 0x20 || plainPunct.contains c) (x := 0x7C) (by decide) h
    exact pipeSafe_of_noPipe _ (by simp [noPipe, Atom.src, h1])
  | esc c =>
    by_cases hc : c = 0x7C
    · subst hc; exact pipeSafe_esc
    · exact pipeSafe_of_noPipe _ (by simp [noPipe, Atom.src, hc])
  | ent i =>
    simp only [Atom.ok, decide_eq_true_eq] at h
    exact pipeSafe_of_atomPipe _ (List.all_eq_true.mp ent_pipe i (List.mem_range.mpr h))
  | num c hex =>
    have hd := noPipe_of_all _ isAsciiAlnum (by decide) (decBytes_alnum c.toNat)
    have hx := noPipe_of_all _ isAsciiAlnum (by decide) (hexBytes_alnum c.toNat)
    refine pipeSafe_of_noPipe _ ?_
    cases hex
    · simp only [Atom.src, noPipe_append, hd, Bool.and_true]; rfl
    · simp only [Atom.src, noPipe_append, hx, Bool.and_true]; rfl
  | uni i =>
    simp only [Atom.ok, decide_eq_true_eq] at h
    exact pipeSafe_of_atomPipe _ (List.all_eq_true.mp uni_pipe i (List.mem_range.mpr h))

theorem atoms_pipe : ∀ (as : List Atom), as.all Atom.ok = true → pipeSafe (atomsSrc as)
  | [], _ => pipeSafe_nil
  | a :: r, h => by
    simp only [List.all_cons, Bool.and_eq_true] at h
    simp only [atomsSrc, List.flatMap_cons]
    exact pipeSafe_append _ _ (atom_pipe a h.1) (atoms_pipe r h.2)

theorem wrap_pipe (i : Inl) (hw : i.isWrap = true) (hu : i.opener.all markupChar = true) (ht : i.closer.all markupChar = true)
    (hc : pipeSafe i.kids.src) : pipeSafe i.src := by
  rw [Inl.src_closer i hw]
  exact pipeSafe_append _ _ (pipeSafe_append _ _ (pipeSafe_of_noPipe _ (markup_noPipe _ hu)) hc)
    (pipeSafe_of_noPipe _ (markup_noPipe _ ht))

mutual
theorem inl_pipe : ∀ (i : Inl) (a b br : Bool) (p n : UInt8) (f l : Bool) (pc : Nat) (ib : Bool),
    i.wf a b br p n f l pc = true → i.cellOk ib = true → pipeSafe i.src
  | .text as => fun _ _ _ _ _ _ _ _ _ h _ => by
    simp only [Inl.wf, Bool.and_eq_true] at h
    exact atoms_pipe as h.1.1.2
  | .code k s => fun _ _ _ _ _ _ _ _ _ _ hc => by
    simp only [Inl.cellOk, Bool.not_eq_true'] at hc
    have hs : noPipe s = true := by
      simp only [noPipe, List.all_eq_true, bne_iff_ne, ne_eq]
      intro b hb e
      subst e
      simp [hb] at hc
    refine pipeSafe_of_noPipe _ ?_
    have hr : noPipe (rep k 0x60) = true := by simp [noPipe, rep, List.all_replicate]
    simp only [Inl.src, noPipe_append, hr, hs, Bool.and_self]
  | .emph _ cs | .strong _ cs | .strike cs => fun _ _ br _ _ _ _ _ ib h hc =>
    have ⟨hu, ht, a', b', hk⟩ := Inl.wf_frame _ rfl h
    wrap_pipe _ rfl hu ht (inls_pipe cs a' b' br _ _ true 0 ib hk hc)
  | .link _ _ _ _ cs | .image _ _ _ cs => fun _ _ br _ _ _ _ _ _ h hc =>
    have ⟨hu, ht, a', b', hk⟩ := Inl.wf_frame _ rfl h
    wrap_pipe _ rfl hu ht (inls_pipe cs a' b' br _ _ true 0 true hk hc)
  | .autolink sc r => fun _ _ _ _ _ _ _ _ _ h _ => by
    simp only [Inl.wf, Bool.and_eq_true, decide_eq_true_eq] at h
    refine pipeSafe_of_noPipe _ ?_
    simp only [Inl.src, noPipe_append, markup_noPipe _ (autolink_markup sc r h.1.2 h.2), Bool.and_true]; rfl
  | .hard true | .hard false | .soft => fun _ _ _ _ _ _ _ _ _ _ _ => pipeSafe_of_noPipe _ rfl
  | .fnref name rn ix => fun _ _ _ _ _ _ _ _ _ h _ => by
    simp only [Inl.wf, Bool.and_eq_true] at h
    refine pipeSafe_of_noPipe _ ?_
    simp only [Inl.src, noPipe_append, markup_noPipe _ (fnName_markup name h.1.1.1.1.1.1.2), Bool.and_true]; rfl
theorem inls_pipe : ∀ (is : Inls) (a b br : Bool) (p af : UInt8) (f : Bool) (pc : Nat) (ib : Bool),
    is.wf a b br p af f pc = true → is.cellOk ib = true → pipeSafe is.src
  | .nil => fun _ _ _ _ _ _ _ _ _ _ => pipeSafe_nil
  | .cons i r => fun a b br p af f pc ib h hc => by
    simp only [Inls.wf, Bool.and_eq_true] at h
    simp only [Inls.cellOk, Bool.and_eq_true] at hc
    exact pipeSafe_append _ _ (inl_pipe i a b br p _ f _ pc ib h.1.2 hc.1) (inls_pipe r a b br _ af false _ ib h.2 hc.2)
end

theorem cellPh_of_wf (c : Inls) (h : cellWf c = true) : cellPh c = true := by
  simp only [cellWf, Bool.and_eq_true] at h
  have F := inls_facts c false false false 0x20 0x20 true 0 h.1
  have hp := inls_pipe c false false false 0x20 0x20 true 0 false h.1 h.2
  have hs : pipeSafe ([0x20] ++ c.src ++ [0x20]) :=
    pipeSafe_append _ _ (pipeSafe_append _ _ (pipeSafe_of_noPipe _ rfl) hp) (pipeSafe_of_noPipe _ rfl)
  simp only [cellPh, Bool.and_eq_true, Bool.not_eq_true']
  exact ⟨⟨F.ph, F.nl rfl⟩, hs 0⟩

end Comrak.Canon
