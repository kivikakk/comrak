/-
C15 (footnotes): what the statements need beside the model of the pass - the id/href graph read off the rendered
tokens and the witness trees - and the two case principles by which every proof about a walk of the pass splits.
-/
import Comrak.Footnotes
import Comrak.Html
namespace Comrak
open Bytes

def ixsOf (l : List (Bytes × Nat × Nat)) : List Nat := l.map (·.2.2)

/-! The walks of the footnote pass treat two node kinds specially and pass through every other kind.  The
    equations Lean derives for them carry the negative condition in exactly the form below, and `simp only [f]`
    discharges it from the context, so a proof about a walk splits two or three ways, never over all kinds. -/

theorem NodeValue.ref_or_not (v : NodeValue) :
    (∃ name rn ix, v = .footnoteReference name rn ix) ∨ ∀ name rn ix, v = .footnoteReference name rn ix → False := by
  by_cases h : ∃ name rn ix, v = .footnoteReference name rn ix
  · exact .inl h
  · exact .inr fun name rn ix e => h ⟨name, rn, ix, e⟩

theorem NodeValue.def_or_not (v : NodeValue) :
    (∃ name total, v = .footnoteDefinition name total) ∨ ∀ name total, v = .footnoteDefinition name total → False := by
  by_cases h : ∃ name total, v = .footnoteDefinition name total
  · exact .inl h
  · exact .inr fun name total e => h ⟨name, total, e⟩

theorem isDefValue_eq_false {v : NodeValue} :
    isDefValue v = false ↔ ∀ name total, v = .footnoteDefinition name total → False := by
  constructor
  · rintro h name total rfl; cases h
  · intro hd
    unfold isDefValue
    split
    · exact absurd rfl (hd _ _)
    · rfl

theorem Forest.eq_nil_of_isNil {cs : Forest} (h : cs.isNil = true) : cs = .nil := by
  cases cs
  · rfl
  · cases h

def attrVal (as : List Attr) (n : Bytes) : Option Bytes :=
  match as.find? fun a => a.name == n with
  | some a => a.val.map spellVal
  | none => none

def hasAttr (as : List Attr) (n : Bytes) : Bool := as.any fun a => a.name == n

/-- `id` values of the footnote references (`<a ... data-footnote-ref>`). -/
def tokRefIds (ts : List Tok) : List Bytes :=
  ts.filterMap fun t =>
    match t with
    | .op _ as => if hasAttr as S.a_data_footnote_ref then attrVal as S.a_id else none
    | _ => none

/-- Targets of the back-links (`<a href="#.." data-footnote-backref>`), without the `#`. -/
def tokBackHrefs (ts : List Tok) : List Bytes :=
  ts.filterMap fun t =>
    match t with
    | .op _ as => if hasAttr as S.a_data_footnote_backref then (attrVal as S.a_href).map (·.drop 1) else none
    | _ => none

/-- `id` values of the rendered definitions (`<li id="fn-..">`). -/
def tokDefIds (ts : List Tok) : List Bytes :=
  ts.filterMap fun t =>
    match t with
    | .op n as => if n == S.t_li then attrVal as S.a_id else none
    | _ => none

/-- Every back-link points to the id of a rendered reference and vice versa. -/
def backrefsMatch (ts : List Tok) : Bool :=
  (tokBackHrefs ts).all (tokRefIds ts).contains && (tokRefIds ts).all (tokBackHrefs ts).contains &&
  (tokBackHrefs ts).length == (tokRefIds ts).length

def W.tx (s : Bytes) : Tree := .node (.text s) {} .nil
def W.rf (n : Bytes) : Tree := .node (.footnoteReference n 0 0) {} .nil
def W.para (l : List Tree) : Tree := .node .paragraph {} (Forest.ofList l)
def W.dfn (n : Bytes) (l : List Tree) : Tree := .node (.footnoteDefinition n 0) {} (Forest.ofList l)
def W.doc (l : List Tree) : Tree := .node .document {} (Forest.ofList l)

/-- `x[^a]` / `[^a]: A` / `[^b]: B[^a]`: the second reference to `a` sits in a definition that is dropped. -/
def W.discarded : Tree :=
  W.doc [W.para [W.tx [0x78], W.rf [0x61]], W.dfn [0x61] [W.para [W.tx [0x41]]],
         W.dfn [0x62] [W.para [W.tx [0x42], W.rf [0x61]]]]

/-- `[^a] [^a] [^a-2]` / `[^a]: A` / `[^a-2]: B`. -/
def W.suffix : Tree :=
  W.doc [W.para [W.rf [0x61], W.rf [0x61], W.rf [0x61, 0x2D, 0x32]], W.dfn [0x61] [W.para [W.tx [0x41]]],
         W.dfn [0x61, 0x2D, 0x32] [W.para [W.tx [0x42]]]]

/-- `x[^a]` / `[^a]: A` + indented `[^b]: inner`. -/
def W.nested : Tree :=
  W.doc [W.para [W.tx [0x78], W.rf [0x61]],
         W.dfn [0x61] [W.para [W.tx [0x41]], W.dfn [0x62] [W.para [W.tx [0x69]]]]]

/-- `x[^a] [^b]` / `[^a]: A` + indented `[^b]: inner` / `[^b]: B`. -/
def W.nestedDup : Tree :=
  W.doc [W.para [W.tx [0x78], W.rf [0x61], W.rf [0x62]],
         W.dfn [0x61] [W.para [W.tx [0x41]], W.dfn [0x62] [W.para [W.tx [0x69]]]],
         W.dfn [0x62] [W.para [W.tx [0x42]]]]

/-- A clean document: `x[^a] y[^B] z[^a] [^q]` / `[^b]: B[^a]` / `[^A]: A` (case variants, a reference inside a
    live definition, an unresolved name). -/
def W.clean : Tree :=
  W.doc [W.para [W.tx [0x78], W.rf [0x61], W.tx [0x79], W.rf [0x42], W.tx [0x7A], W.rf [0x61], W.rf [0x71]],
         W.dfn [0x62] [W.para [W.tx [0x42], W.rf [0x61]]], W.dfn [0x41] [W.para [W.tx [0x41]]]]

/-- A normaliser whose `keep` is not idempotent, as `normalize_label` is on a label starting with U+00A0:
    the leading no-break space becomes a space on the first application and is trimmed by the second. -/
def nbspKeep (s : Bytes) : Bytes := match s with | 0xC2 :: 0xA0 :: r => 0x20 :: keepAscii r | _ => keepAscii s
def nbspNorm : LabelNorm := { fold := fun s => (nbspKeep s).map toLowerAscii, keep := nbspKeep }

/-- `x[^\u{a0}u]` / `[^\u{a0}u]: A`. -/
def W.nbsp : Tree :=
  W.doc [W.para [W.tx [0x78], W.rf [0xC2, 0xA0, 0x75]], W.dfn [0xC2, 0xA0, 0x75] [W.para [W.tx [0x41]]]]

end Comrak
