/-
What every induction over `renderT` / `renderF` needs: the two unfolding equations, the three
classes of node with cross-node bookkeeping (document, footnote definition, table row) and what
`placeOk` / `tableOk` say about them, and the footnote counter `fnIx`, which only entering a
definition changes.
-/
import Comrak.Lemmas.HtmlBalance
import Comrak.Shape
namespace Comrak
open Bytes

theorem renderT_node (o : HtmlOpts) (nt : NormTable) (cx : Ctx) (v : NodeValue) (sp : Sp) (cs : Forest) (st : St) :
    renderT o nt cx (.node v sp cs) st =
      ((enter o nt cx v sp cs st).1 ++
        (if htmlChildren v then renderF o nt (some v) cx.parent none 0 cs (enter o nt cx v sp cs st).2
         else ([], (enter o nt cx v sp cs st).2)).1 ++
        (exit o cx v cs (if htmlChildren v then renderF o nt (some v) cx.parent none 0 cs (enter o nt cx v sp cs st).2
         else ([], (enter o nt cx v sp cs st).2)).2).1,
       (exit o cx v cs (if htmlChildren v then renderF o nt (some v) cx.parent none 0 cs (enter o nt cx v sp cs st).2
         else ([], (enter o nt cx v sp cs st).2)).2).2) := by
  simp [renderT]

theorem renderF_cons (o : HtmlOpts) (nt : NormTable) (parent grand prev : Option NodeValue) (idx : Nat)
    (t : Tree) (ts : Forest) (st : St) :
    renderF o nt parent grand prev idx (.cons t ts) st =
      ((renderT o nt { parent := parent, grand := grand, prev := prev, isLast := ts.isNil, index := idx } t st).1 ++
        (renderF o nt parent grand (some t.value) (idx + 1) ts
          (renderT o nt { parent := parent, grand := grand, prev := prev, isLast := ts.isNil, index := idx } t st).2).1,
       (renderF o nt parent grand (some t.value) (idx + 1) ts
          (renderT o nt { parent := parent, grand := grand, prev := prev, isLast := ts.isNil, index := idx } t st).2).2) := by
  simp [renderF]

def isDef : NodeValue → Bool | .footnoteDefinition .. => true | _ => false
def isDoc : NodeValue → Bool | .document => true | _ => false
def isRow : NodeValue → Bool | .tableRow _ => true | _ => false
def rowHeader : NodeValue → Bool | .tableRow h => h | _ => false

theorem eq_document_of_isDoc {v : NodeValue} (h : isDoc v = true) : v = .document := by
  cases v <;> simp_all [isDoc]

theorem eq_tableRow_of_isRow {v : NodeValue} (h : isRow v = true) : v = .tableRow (rowHeader v) := by
  cases v <;> simp_all [isRow, rowHeader]

theorem isDocOrDef_some (v : NodeValue) : isDocOrDef (some v) = (isDoc v || isDef v) := by
  cases v <;> rfl

theorem htmlChildren_of (v : NodeValue) (h : htmlChildren v = false) :
    isDoc v = false ∧ isDef v = false ∧ isRow v = false ∧ isTable (some v) = false := by
  cases v <;> simp_all [htmlChildren, isDoc, isDef, isRow, isTable]

theorem placeOk_class {parent : Option NodeValue} {v : NodeValue} (h : placeOk parent v = true) :
    (isRow v = true → isTable parent = true) ∧ (isDef v = true → isDocOrDef parent = true) ∧
    (isDoc v = true → parent = none) := by
  cases v <;> simp_all [placeOk, isRow, isDef, isDoc]

theorem not_isTable_of_isDef {v : NodeValue} (h : isDef v = true) : isTable (some v) = false := by
  cases v <;> simp_all [isDef, isTable]

theorem rowsOk_of_tableOk {v : NodeValue} {cs : Forest} (h : tableOk v cs = true)
    (ht : isTable (some v) = true) : rowsOk cs = true := by
  cases v <;> simp_all [isTable, tableOk]

theorem restRows_cons {w : NodeValue} {sp : Sp} {cs ts : Forest} (h : restRows (.cons (.node w sp cs) ts) = true) :
    w = .tableRow false ∧ restRows ts = true := by
  simp only [restRows, Bool.and_eq_true] at h
  refine ⟨?_, h.2⟩
  have h1 := h.1
  cases w <;> simp_all
  rename_i hd; cases hd <;> simp_all

theorem rowsOk_cons {w : NodeValue} {sp : Sp} {cs ts : Forest} (h : rowsOk (.cons (.node w sp cs) ts) = true) :
    w = .tableRow true ∧ restRows ts = true := by
  simp only [rowsOk, Bool.and_eq_true] at h
  refine ⟨?_, h.2⟩
  have h1 := h.1
  cases w <;> simp_all
  rename_i hd; cases hd <;> simp_all

theorem opened_indep (o : HtmlOpts) (cx : Ctx) (st : St) (v : NodeValue) (h : isDef v = false) :
    opened o cx st v = opened o cx {} v := by
  cases v <;> simp_all [opened, isDef]

theorem closing_other (o : HtmlOpts) (cx : Ctx) (v : NodeValue) (cs : Forest)
    (h1 : isDef v = false) (h2 : isRow v = false) (h3 : isTable (some v) = false) :
    closing o cx v cs = opened o cx {} v := by
  cases v <;> simp_all [closing, isDef, isRow, isTable]

theorem opened_def (o : HtmlOpts) (cx : Ctx) (st : St) {v : NodeValue} (h : isDef v = true) :
    opened o cx st v = if st.fnIx = 0 then [S.t_li, S.t_ol, S.t_section] else [S.t_li] := by
  cases v <;> simp_all [opened, isDef]

theorem closing_def (o : HtmlOpts) (cx : Ctx) {v : NodeValue} (cs : Forest) (h : isDef v = true) :
    closing o cx v cs = [S.t_li] := by
  cases v <;> simp_all [closing, isDef]

theorem opened_table (o : HtmlOpts) (cx : Ctx) (st : St) {v : NodeValue} (h : isTable (some v) = true) :
    opened o cx st v = [S.t_table] := by
  cases v <;> simp_all [opened, isTable]

theorem closing_table (o : HtmlOpts) (cx : Ctx) {v : NodeValue} (cs : Forest) (h : isTable (some v) = true) :
    closing o cx v cs = if cs.length ≠ 1 then [S.t_tbody, S.t_table] else [S.t_table] := by
  cases v <;> simp_all [closing, isTable]

theorem enter_fnIx (o : HtmlOpts) (nt : NormTable) (cx : Ctx) (v : NodeValue) (sp : Sp) (cs : Forest) (st : St) :
    (enter o nt cx v sp cs st).2.fnIx = if isDef v then st.fnIx + 1 else st.fnIx := by
  cases v
  all_goals dsimp only [enter, isDef]
  case heading level setext => cases o.headerIds <;> simp
  case footnoteDefinition name total => split <;> simp
  case list l => cases l.ty <;> simp
  all_goals (try split)
  all_goals simp only [W.seq_snd, W.emit_fnIx, W.cr_fnIx, W.nop_snd, Bool.false_eq_true, if_false]

theorem putBackref_fnIx (name : Bytes) (total : Nat) (st : St) : (putBackref name total st).1.2.fnIx = st.fnIx := by
  unfold putBackref; split <;> simp

theorem exit_fnIx (o : HtmlOpts) (cx : Ctx) (v : NodeValue) (cs : Forest) (st : St) :
    (exit o cx v cs st).2.fnIx = st.fnIx := by
  cases v
  all_goals dsimp only [exit]
  case paragraph =>
    split
    · simp
    · split
      · split <;> simp [putBackref_fnIx]
      · simp
  case footnoteDefinition name total => split <;> simp [putBackref_fnIx]
  case list l => cases l.ty <;> simp
  case image url title => split <;> (try split) <;> simp
  all_goals (try split)
  all_goals simp

mutual
/-- `fnIx` never decreases; a shape-respecting tree that is neither the document nor a definition
    contains no definition (`placeOk`), so it leaves `fnIx` alone. -/
theorem renderT_fnIx (o : HtmlOpts) (nt : NormTable) : ∀ (t : Tree) (cx : Ctx) (st : St),
    st.fnIx ≤ (renderT o nt cx t st).2.fnIx ∧
    (balShapeT cx.parent t = true → isDoc t.value = false → isDef t.value = false →
      (renderT o nt cx t st).2.fnIx = st.fnIx)
  | .node v sp cs, cx, st => by
    have hF := renderF_fnIx o nt cs (some v) cx.parent none 0 (enter o nt cx v sp cs st).2
    rw [renderT_node, exit_fnIx]
    simp only [Tree.value, balShapeT, Bool.and_eq_true]
    cases htmlChildren v
    · simp only [Bool.false_eq_true, if_false, enter_fnIx]
      exact ⟨by split <;> omega, fun _ _ hd => by simp [hd]⟩
    · simp only [if_true]
      refine ⟨Nat.le_trans (by rw [enter_fnIx]; split <;> omega) hF.1, fun hs hdoc hdef => ?_⟩
      rw [hF.2 hs.2 rfl (by simp [isDocOrDef_some, hdoc, hdef]), enter_fnIx]
      simp [hdef]
theorem renderF_fnIx (o : HtmlOpts) (nt : NormTable) :
    ∀ (f : Forest) (parent grand prev : Option NodeValue) (idx : Nat) (st : St),
      st.fnIx ≤ (renderF o nt parent grand prev idx f st).2.fnIx ∧
      (balShapeF parent f = true → parent.isSome = true → isDocOrDef parent = false →
        (renderF o nt parent grand prev idx f st).2.fnIx = st.fnIx)
  | .nil, _, _, _, _, _ => by simp [renderF]
  | .cons t ts, parent, grand, prev, idx, st => by
    have hT := renderT_fnIx o nt t { parent := parent, grand := grand, prev := prev, isLast := ts.isNil, index := idx } st
    have hF := renderF_fnIx o nt ts parent grand (some t.value) (idx + 1)
      (renderT o nt { parent := parent, grand := grand, prev := prev, isLast := ts.isNil, index := idx } t st).2
    rw [renderF_cons]
    refine ⟨Nat.le_trans hT.1 hF.1, fun hs hsome hp => ?_⟩
    simp only [balShapeF, Bool.and_eq_true] at hs
    have hpl : placeOk parent t.value = true := by
      cases t with
      | node v sp cs => simp only [balShapeT, Bool.and_eq_true] at hs; exact hs.1.1.1
    obtain ⟨_, hdef, hdoc⟩ := placeOk_class hpl
    rw [hF.2 hs.2 hsome hp, hT.2 hs.1 ?_ ?_]
    · cases h : isDoc t.value
      · rfl
      · rw [hdoc h] at hsome; cases hsome
    · cases h : isDef t.value
      · rfl
      · rw [hdef h] at hp; cases hp
end

end Comrak
