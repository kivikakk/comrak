/-
C15 (footnotes): the hypotheses of the general clauses (decidable predicates on the input tree) and the output of
`processFootnotes N t` under them: the stripped numbered forest, then one renamed definition per numbered key
(`process_shape`); no reference is lost if none sits in a dropped definition (`out_refs_perm`).
-/
import Comrak.Lemmas.FootnotesTree
namespace Comrak
open Bytes

def fnD (N : LabelNorm) (t : Tree) : DefTab := buildTab N 0 (outerDefsF t.children) []
def fnKeys (N : LabelNorm) (t : Tree) : List Bytes := resKeysF N (fnD N t) t.children
def fnFin (N : LabelNorm) (t : Tree) : NSt := runKeys {} (fnKeys N t)
def fnNumbered (N : LabelNorm) (t : Tree) : Forest := (numberF N (fnD N t) t.children {}).1
def fnOuter' (N : LabelNorm) (t : Tree) : List Tree := outerDefsF (fnNumbered N t)
def fnO (N : LabelNorm) (t : Tree) (k : Bytes) : Tree := ((fnOuter' N t)[posOf (fnD N t) k]?).getD default

def isRefValue : NodeValue → Bool
  | .footnoteReference .. => true
  | _ => false

/-- The root is neither a definition (the pass leaves such a tree alone) nor a reference (never walked). -/
def rootPlain (t : Tree) : Bool := !isDefValue t.value && !isRefValue t.value

/-- No definition is nested in a definition (`find_footnote_definitions` would not see it). -/
def noNestedDefs (t : Tree) : Bool := (outerDefsF t.children).all fun d => (innerDefs d).isEmpty

/-- The `i`-th outermost definition `d` is dropped by the pass: a later definition with the same folded label
    holds the slot, or no resolvable reference anywhere in the tree has that folded label. -/
def droppedAt (N : LabelNorm) (t : Tree) (i : Nat) (d : Tree) : Bool :=
  match (fnD N t).get? (N.fold (defLabel d)) with
  | some s => s.pos != i || !(fnKeys N t).contains s.key
  | none => true

/-- No resolvable reference sits inside a definition that is dropped (unresolvable ones are harmless: they
    become text). -/
def noRefInDropped (N : LabelNorm) (t : Tree) : Bool :=
  (outerDefsF t.children).zipIdx.all fun (d, i) =>
    !droppedAt N t i d || (resKeysF N (fnD N t) d.children).isEmpty

/-- On the labels of the definitions, `keep`-equal implies `fold`-equal (true of `normalize_label`, whose folded
    form is a function of the preserved form). -/
def labelsCompat (N : LabelNorm) (t : Tree) : Bool :=
  ((outerDefsF t.children).map defLabel).all fun a =>
    ((outerDefsF t.children).map defLabel).all fun b => N.keep a != N.keep b || N.fold a == N.fold b

theorem filterMap_eq_map_of {α β} (F : α → Option β) (G : α → β) (l : List α)
    (h : ∀ x ∈ l, F x = some (G x)) : l.filterMap F = l.map G := by
  induction l with
  | nil => rfl
  | cons a l ih =>
    rw [List.filterMap_cons, h a (by simp), List.map_cons, ih (fun x hx => h x (by simp [hx]))]

section
variable (N : LabelNorm) (t : Tree)

theorem fnSeen_mem (k : Bytes) : k ∈ (fnFin N t).seen ↔ k ∈ fnKeys N t := by
  simp [fnFin, runKeys_seen_mem]

theorem fnSeen_nodup : (fnFin N t).seen.Nodup :=
  runKeys_nodup {} _ List.nodup_nil

theorem fnHist_count (k : Bytes) : (fnFin N t).hist.count k = (fnKeys N t).count k := by
  simp [fnFin, runKeys_hist, List.count_reverse]

theorem fnOuter'_length : (fnOuter' N t).length = (outerDefsF t.children).length := by
  have := congrArg List.length (numberF_outerA N (fnD N t) t.children {})
  rwa [List.length_map, List.length_map] at this

theorem fnSlot (k : Bytes) (hk : k ∈ (fnFin N t).seen) :
    ∃ s d, (fnD N t).get? k = some s ∧ (outerDefsF t.children)[s.pos]? = some d ∧
      k = N.fold (defLabel d) ∧ s.name = N.keep (defLabel d) := by
  have h1 := resKeysF_isSome N (fnD N t) t.children k ((fnSeen_mem N t k).mp hk)
  cases hs : (fnD N t).get? k with
  | none => rw [hs] at h1; cases h1
  | some s =>
    obtain ⟨d, h2, h3, h4⟩ := getSlot N _ k s hs
    exact ⟨s, d, rfl, h2, h3, h4⟩

theorem fnPos_lt (k : Bytes) (hk : k ∈ (fnFin N t).seen) : posOf (fnD N t) k < (fnOuter' N t).length := by
  obtain ⟨s, d, h1, h2, _, _⟩ := fnSlot N t k hk
  rw [fnOuter'_length, posOf, h1]
  exact (List.getElem?_eq_some_iff.mp h2).1

theorem posOf_inj (k1 k2 : Bytes) (h1 : k1 ∈ (fnFin N t).seen) (h2 : k2 ∈ (fnFin N t).seen)
    (h : posOf (fnD N t) k1 = posOf (fnD N t) k2) : k1 = k2 := by
  obtain ⟨s1, d1, a1, b1, c1, _⟩ := fnSlot N t k1 h1
  obtain ⟨s2, d2, a2, b2, c2, _⟩ := fnSlot N t k2 h2
  simp only [posOf, a1, a2] at h
  rw [h, b2] at b1
  rw [c1, c2, Option.some.inj b1]

theorem fnO_cases (k : Bytes) : fnO N t k ∈ fnOuter' N t ∨ fnO N t k = default := by
  unfold fnO
  cases h : (fnOuter' N t)[posOf (fnD N t) k]? with
  | none => exact .inr rfl
  | some d => exact .inl (List.mem_of_getElem? h)

theorem innerDefs_default : innerDefs (default : Tree) = [] := rfl

theorem usedDefs_eq : usedDefs (fnD N t) (fnOuter' N t) (fnFin N t) =
    (fnFin N t).seen.map fun k => setDef (nameOf (fnD N t) k) ((fnKeys N t).count k) (fnO N t k) := by
  apply filterMap_eq_map_of
  intro k hk
  obtain ⟨s, d, h1, _, _, _⟩ := fnSlot N t k hk
  have hlt := fnPos_lt N t k hk
  rw [posOf, h1] at hlt
  simp only [h1, nameOf, fnO, posOf, List.getElem?_eq_getElem hlt, Option.map_some, Option.getD_some, fnHist_count]

variable (hr : rootPlain t = true) (hl : leafRefsT t = true)
include hr

theorem rootPlain_not_ref : ∀ name rn ix, t.value = .footnoteReference name rn ix → False := by
  intro name rn ix e
  simp [rootPlain, e, isRefValue] at hr

theorem rootPlain_not_def : ∀ name total, t.value = .footnoteDefinition name total → False := by
  intro name total e
  simp [rootPlain, e, isDefValue] at hr

include hl

theorem leafRefs_children : leafRefsF t.children = true := by
  obtain ⟨v, sp, cs⟩ := t
  have hv := rootPlain_not_ref _ hr
  simp only [Tree.value] at hv
  simpa only [leafRefsT, Tree.children] using hl

theorem process_shape :
    processFootnotes N t = .node t.value t.sp ((stripF (fnNumbered N t)).append (Forest.ofList
      ((fnFin N t).seen.map fun k => setDef (nameOf (fnD N t) k) ((fnKeys N t).count k) (fnO N t k)))) := by
  rw [← usedDefs_eq, fnFin, fnKeys, ← (numberF_keys N (fnD N t) t.children {} (leafRefs_children t hr hl)).1]
  have hv := isDefValue_eq_false.mpr (rootPlain_not_def t hr)
  obtain ⟨v, sp, cs⟩ := t
  rw [processFootnotes, if_neg (hv ▸ Bool.false_ne_true)]
  rfl

theorem out_rootDefs :
    rootDefs (processFootnotes N t) =
      (fnFin N t).seen.map fun k => (nameOf (fnD N t) k, (fnKeys N t).count k) := by
  rw [process_shape N t hr hl, rootDefs_eq, toList_append, toList_ofList, List.filterMap_append, stripF_top,
    List.nil_append, List.filterMap_map]
  exact filterMap_eq_map_of _ _ _ fun k _ => defInfo_setDef _ _ _

theorem out_allRefs :
    allRefsT (processFootnotes N t) =
      allRefsF (stripF (fnNumbered N t)) ++ (fnFin N t).seen.flatMap fun k => innerRefs (fnO N t k) := by
  have hv := rootPlain_not_ref t hr
  rw [process_shape N t hr hl]
  simp only [allRefsT, allRefsF_append, allRefsF_ofList, List.flatMap_map, allRefsT_setDef]

theorem fnNumbered_refs :
    (emitKeys (fnD N t) {} (fnKeys N t)).Perm
      (allRefsF (stripF (fnNumbered N t)) ++ (fnOuter' N t).flatMap innerRefs) := by
  rw [fnKeys, ← (numberF_keys N (fnD N t) t.children {} (leafRefs_children t hr hl)).2]
  exact stripF_refs _ (numberF_leaf N _ _ _ (leafRefs_children t hr hl))

theorem out_refs_sub (r : Bytes × Nat × Nat) (h : r ∈ allRefsT (processFootnotes N t)) :
    r ∈ emitKeys (fnD N t) {} (fnKeys N t) := by
  rw [(fnNumbered_refs N t hr hl).mem_iff, List.mem_append]
  rw [out_allRefs N t hr hl, List.mem_append] at h
  refine h.imp_right fun h => ?_
  obtain ⟨k, _, hk⟩ := List.mem_flatMap.mp h
  rcases fnO_cases N t k with h1 | h1
  · exact List.mem_flatMap.mpr ⟨_, h1, hk⟩
  · rw [h1] at hk; cases hk

end

theorem flatMap_eq_range {α β} (g : α → List β) (d : α) (l : List α) :
    l.flatMap g = (List.range l.length).flatMap (fun i => g (l[i]?.getD d)) := by
  induction l with
  | nil => rfl
  | cons a l ih =>
    rw [List.length_cons, List.range_succ_eq_map, List.flatMap_cons, List.flatMap_cons, List.flatMap_map, ih]
    simp

theorem flatMap_filter_of_nil {α β} (G : α → List β) (p : α → Bool) (l : List α)
    (h : ∀ x ∈ l, p x = false → G x = []) : l.flatMap G = (l.filter p).flatMap G := by
  induction l with
  | nil => rfl
  | cons a l ih =>
    have ih' := ih (fun x hx => h x (by simp [hx]))
    cases hp : p a with
    | true => simp [hp, ih']
    | false => simp [hp, ih', h a (by simp) hp]

/-- Picking the elements of `l` at pairwise different positions `P` loses nothing of `l.flatMap g` if `g` is empty
    at every position that is not picked. -/
theorem flatMap_getD_perm {α β} (g : α → List β) (d : α) (l : List α) (P : List Nat) (hP : P.Nodup)
    (hlt : ∀ p ∈ P, p < l.length) (h0 : ∀ i, i < l.length → i ∉ P → g (l[i]?.getD d) = []) :
    (P.flatMap fun p => g (l[p]?.getD d)).Perm (l.flatMap g) := by
  rw [flatMap_eq_range g d l, flatMap_filter_of_nil _ (fun i => decide (i ∈ P)) (List.range l.length)
    (fun x hx hp => h0 x (List.mem_range.mp hx) (of_decide_eq_false hp))]
  apply List.Perm.flatMap_right
  rw [List.perm_ext_iff_of_nodup hP (List.Nodup.sublist List.filter_sublist List.nodup_range)]
  intro a
  simp only [List.mem_filter, List.mem_range, decide_eq_true_eq]
  exact ⟨fun h => ⟨hlt a h, h⟩, fun h => h.2⟩

section
variable (N : LabelNorm) (t : Tree)

/-- A definition that is not dropped is re-attached: the key of its slot is numbered and the slot is its own. -/
theorem pos_of_not_dropped (i : Nat) (d : Tree) (h : droppedAt N t i d = false) :
    i ∈ (fnFin N t).seen.map (posOf (fnD N t)) := by
  unfold droppedAt at h
  cases hs : (fnD N t).get? (N.fold (defLabel d)) with
  | none => rw [hs] at h; cases h
  | some s =>
    simp only [hs, Bool.or_eq_false_iff, bne_eq_false_iff_eq, Bool.not_eq_false', List.contains_iff_mem] at h
    have hkey : s.key = N.fold (defLabel d) := by simpa using List.find?_some hs
    refine List.mem_map.mpr ⟨s.key, (fnSeen_mem N t _).mpr h.2, ?_⟩
    rw [posOf, hkey, hs]
    exact h.1

theorem fnO_innerDefs (hn : noNestedDefs t = true) (k : Bytes) : innerDefs (fnO N t k) = [] := by
  rcases fnO_cases N t k with h | h
  · have hm : (defLabel (fnO N t k), innerDefs (fnO N t k)) ∈
        (outerDefsF t.children).map (fun d => (defLabel d, innerDefs d)) := by
      rw [← numberF_outerA N (fnD N t) t.children {}]
      exact List.mem_map.mpr ⟨_, h, rfl⟩
    obtain ⟨d, hd1, hd2⟩ := List.mem_map.mp hm
    simp only [noNestedDefs, List.all_eq_true] at hn
    rw [← (Prod.mk.inj hd2).2]
    exact List.isEmpty_iff.mp (hn d hd1)
  · rw [h]; rfl

variable (hr : rootPlain t = true) (hl : leafRefsT t = true)
include hr hl

theorem out_refs_perm (hd : noRefInDropped N t = true) :
    (allRefsT (processFootnotes N t)).Perm (emitKeys (fnD N t) {} (fnKeys N t)) := by
  rw [out_allRefs N t hr hl]
  refine List.Perm.trans (List.Perm.append_left _ ?_) (fnNumbered_refs N t hr hl).symm
  have := flatMap_getD_perm innerRefs default (fnOuter' N t) ((fnFin N t).seen.map (posOf (fnD N t))) ?_ ?_ ?_
  · rwa [List.flatMap_map] at this
  · rw [List.Nodup, List.pairwise_map]
    exact List.Pairwise.imp_of_mem (fun ha hb hne hp => hne (posOf_inj N t _ _ ha hb hp)) (fnSeen_nodup N t)
  · intro p hp
    obtain ⟨k, hk, rfl⟩ := List.mem_map.mp hp
    exact fnPos_lt N t k hk
  · -- the `i`-th outermost definition is not re-attached, so it is dropped, so nothing in it resolves
    intro i hi hnot
    have hi' : i < (outerDefsF t.children).length := fnOuter'_length N t ▸ hi
    have hdi := List.all_eq_true.mp hd ((outerDefsF t.children)[i], i)
      (List.mem_zipIdx_iff_getElem?.mpr (List.getElem?_eq_getElem hi'))
    rcases Bool.or_eq_true_iff.mp hdi with hlive | hempty
    · exact absurd (pos_of_not_dropped N t i _ ((Bool.not_eq_true' _).mp hlive)) hnot
    · have hB := List.getElem_of_eq (numberF_outerB N (fnD N t) t.children {} (leafRefs_children t hr hl))
        (i := i) (by rw [List.length_map]; exact hi)
      rw [List.getElem_map, List.getElem_map, hempty] at hB
      rw [List.getElem?_eq_getElem hi, Option.getD_some]
      exact List.isEmpty_iff.mp hB

/-- The `i`-th rendered definition `d` is referenced, and the output references numbered `i + 1` carry the `ref_num`s
    `1 .. d.2`, each once. -/
theorem out_nums_perm (hd : noRefInDropped N t = true) (d : Bytes × Nat) (i : Nat)
    (h : (d, i) ∈ (rootDefs (processFootnotes N t)).zipIdx) :
    0 < d.2 ∧ (((allRefsT (processFootnotes N t)).filter fun r => r.2.2 == i + 1).map (·.2.1)).Perm
      (List.range' 1 d.2) := by
  rw [List.mem_zipIdx_iff_getElem?, out_rootDefs N t hr hl, List.getElem?_map] at h
  cases hk : (fnFin N t).seen[i]? with
  | none => rw [hk] at h; cases h
  | some k =>
    rw [hk, Option.map_some, Option.some.injEq] at h
    subst h
    obtain ⟨hi, hki⟩ := List.getElem?_eq_some_iff.mp hk
    have hidx : (fnFin N t).seen.idxOf k = i := hki ▸ (fnSeen_nodup N t).idxOf_getElem i hi
    have key : ((emitKeys (fnD N t) {} (fnKeys N t)).filter fun r => r.2.2 == (fnFin N t).seen.idxOf k + 1).map (·.2.1)
        = List.range' 1 ((fnKeys N t).count k) :=
      emitKeys_nums (fnD N t) (fnKeys N t) {} k (List.mem_of_getElem? hk)
    refine ⟨List.count_pos_iff.mpr ((fnSeen_mem N t k).mp (List.mem_of_getElem? hk)), ?_⟩
    rw [← key, hidx]
    exact ((out_refs_perm N t hr hl hd).filter _).map _

theorem out_allDefs_root (hn : noNestedDefs t = true) :
    allDefsT (processFootnotes N t) = rootDefs (processFootnotes N t) := by
  have hv := rootPlain_not_def t hr
  rw [out_rootDefs N t hr hl, process_shape N t hr hl]
  simp only [allDefsT, allDefsF_append, allDefsF_ofList, stripF_noDefs, List.nil_append, List.flatMap_map,
    allDefsT_setDef, fnO_innerDefs N t hn]
  exact List.map_eq_flatMap.symm

end

/-- `x[^a] [^B] [^a] [^q]` / `[^b]: B[^a]` / `[^a]: old[^zz]` / `[^A]: A` / `[^c]: C`:
    case variants, a reference inside a live definition, an unresolved name, a definition shadowed by a later
    duplicate (holding only an unresolvable reference) and an unreferenced definition. -/
def W.clean2 : Tree :=
  W.doc [W.para [W.tx [0x78], W.rf [0x61], W.rf [0x42], W.rf [0x61], W.rf [0x71]],
         W.dfn [0x62] [W.para [W.tx [0x42], W.rf [0x61]]],
         W.dfn [0x61] [W.para [W.tx [0x6F], W.rf [0x7A, 0x7A]]],
         W.dfn [0x41] [W.para [W.tx [0x41]]],
         W.dfn [0x63] [W.para [W.tx [0x43]]]]

/-- An (unresolvable) reference node with a reference node below it - never built by the inline parser. -/
def W.leafBad : Tree :=
  W.doc [W.para [.node (.footnoteReference [0x71] 0 0) {} (Forest.ofList [W.rf [0x61]])],
         W.dfn [0x61] [W.para [W.tx [0x41]]]]

/-- A tree whose root is a definition: the pass leaves it alone. -/
def W.rootDef : Tree := W.dfn [0x61] [W.para [W.rf [0x61]]]

/-- `x` / `[^b]: B[^a]` / `[^a]: A`: `a` is referenced only from `b`, which is dropped. -/
def W.onlyFromDropped : Tree :=
  W.doc [W.para [W.tx [0x78]], W.dfn [0x62] [W.para [W.tx [0x42], W.rf [0x61]]], W.dfn [0x61] [W.para [W.tx [0x41]]]]

/-- A normaliser whose preserved form forgets what the folded form distinguishes. -/
def constKeepNorm : LabelNorm := ⟨id, fun _ => []⟩

/-- `[^a] [^b]` / `[^a]: A` / `[^b]: B`. -/
def W.two : Tree :=
  W.doc [W.para [W.rf [0x61], W.rf [0x62]], W.dfn [0x61] [W.para [W.tx [0x41]]], W.dfn [0x62] [W.para [W.tx [0x42]]]]

end Comrak
