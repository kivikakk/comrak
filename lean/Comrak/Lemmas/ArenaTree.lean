/-
The link-array model of arena_tree (Comrak/ArenaTree.lean) under its five mutators.  `Repr a kids` determines `kids`
(it is what `children` computes), so `Links` is preserved as soon as some `kids'` is represented afterwards.  All five
mutators are one pointer surgery, `Repr.splice`: between two neighbours in one child list a node is taken out
(`detach`) or a parentless node put in (the other four, after their `detach`); each mutator only has to compute its
node records.  `Acyclic` needs the `parent` column alone (`acyclic_reparent`).
-/
import Comrak.ArenaTree
namespace Comrak.ArenaTree

section setters
variable (a : Arena) (i j : Nat) (v : Option Nat)

@[simp] theorem setParent_size : (setParent a i v).size = a.size := rfl
@[simp] theorem setPrev_size : (setPrev a i v).size = a.size := rfl
@[simp] theorem setNext_size : (setNext a i v).size = a.size := rfl
@[simp] theorem setFirst_size : (setFirst a i v).size = a.size := rfl
@[simp] theorem setLast_size : (setLast a i v).size = a.size := rfl

/-- Each `Cell::set` writes one field of one node. -/
theorem set_node :
    (setParent a i v).node j = { a.node j with parent := if j = i then v else (a.node j).parent } ∧
    (setPrev a i v).node j = { a.node j with prev := if j = i then v else (a.node j).prev } ∧
    (setNext a i v).node j = { a.node j with next := if j = i then v else (a.node j).next } ∧
    (setFirst a i v).node j = { a.node j with first := if j = i then v else (a.node j).first } ∧
    (setLast a i v).node j = { a.node j with last := if j = i then v else (a.node j).last } := by
  unfold setParent setPrev setNext setFirst setLast
  by_cases h : j = i
  · simp only [if_pos h, and_self]
  · simp only [if_neg h, and_self]

theorem set_parent :
    ((setParent a i v).node j).parent = (if j = i then v else (a.node j).parent) ∧
    ((setPrev a i v).node j).parent = (a.node j).parent ∧ ((setNext a i v).node j).parent = (a.node j).parent ∧
    ((setFirst a i v).node j).parent = (a.node j).parent ∧ ((setLast a i v).node j).parent = (a.node j).parent := by
  simp only [set_node, and_self]
end setters

theorem detach_size (a : Arena) (x : Nat) : (detach a x).size = a.size := by
  simp only [detach]
  repeat' split
  all_goals simp

theorem detach_node (a : Arena) (x j : Nat) : (detach a x).node j =
    { parent := if j = x then none else (a.node j).parent
      prev := if some j = (a.node x).next then (a.node x).prev else if j = x then none else (a.node j).prev
      next := if some j = (a.node x).prev then (a.node x).next else if j = x then none else (a.node j).next
      first := if (a.node x).prev = none ∧ some j = (a.node x).parent then (a.node x).next else (a.node j).first
      last := if (a.node x).next = none ∧ some j = (a.node x).parent then (a.node x).prev else (a.node j).last } := by
  cases hp : (a.node x).parent <;> cases hv : (a.node x).prev <;> cases hn : (a.node x).next <;>
    simp [detach, hp, hv, hn, set_node]

theorem detach_parent (a : Arena) (x j : Nat) :
    ((detach a x).node j).parent = if j = x then none else (a.node j).parent := by
  rw [detach_node]

theorem headOr_none (l : List Nat) : headOr l none = l.head? := by cases l <;> rfl

theorem headOr_append (l1 l2 : List Nat) (d : Option Nat) : headOr (l1 ++ l2) d = headOr l1 (headOr l2 d) := by
  cases l1 <;> rfl

theorem lastOr_append (l1 l2 : List Nat) (d : Option Nat) : lastOr (l1 ++ l2) d = lastOr l2 (lastOr l1 d) := by
  induction l1 generalizing d with
  | nil => rfl
  | cons x r ih => exact ih _

theorem lastOr_concat (l : List Nat) (y : Nat) (d : Option Nat) : lastOr (l ++ [y]) d = some y :=
  lastOr_append l [y] d

theorem lastOr_eq (l : List Nat) (d : Option Nat) : lastOr l d = l.getLast?.or d := by
  induction l generalizing d with
  | nil => rfl
  | cons x r ih => rw [lastOr, ih, List.getLast?_cons]; cases r.getLast? <;> rfl

theorem lastOr_none (l : List Nat) : lastOr l none = l.getLast? := by
  rw [lastOr_eq, Option.or_none]

theorem lastOr_ne {l : List Nat} {y : Nat} (h : y ∉ l) : some y ≠ lastOr l none := by
  rw [lastOr_none]; exact fun e => h (List.mem_of_getLast? e.symm)

theorem headOr_ne {l : List Nat} {y : Nat} (h : y ∉ l) : some y ≠ headOr l none := by
  rw [headOr_none]; exact fun e => h (List.mem_of_head? e.symm)

theorem lastOr_eq_none {l : List Nat} : lastOr l none = none ↔ l = [] := by
  rw [lastOr_none, List.getLast?_eq_none_iff]

theorem headOr_eq_none {l : List Nat} : headOr l none = none ↔ l = [] := by
  rw [headOr_none, List.head?_eq_none_iff]

variable {a a' : Arena} {kids kids' : Nat → List Nat}

theorem nextChain_append (a : Arena) (l1 l2 : List Nat) (nx : Option Nat) :
    NextChain a (l1 ++ l2) nx ↔ NextChain a l1 (headOr l2 nx) ∧ NextChain a l2 nx := by
  induction l1 with
  | nil => simp [NextChain]
  | cons x r ih => simp only [List.cons_append, NextChain, ih, headOr_append, and_assoc]

theorem prevChain_append (a : Arena) (l1 l2 : List Nat) (pv : Option Nat) :
    PrevChain a pv (l1 ++ l2) ↔ PrevChain a pv l1 ∧ PrevChain a (lastOr l1 pv) l2 := by
  induction l1 generalizing pv with
  | nil => simp [PrevChain, lastOr]
  | cons x r ih => simp only [List.cons_append, PrevChain, ih, lastOr, and_assoc]

theorem nextChain_congr {l : List Nat} {nx : Option Nat}
    (h : ∀ x ∈ l, (a'.node x).next = (a.node x).next) (hc : NextChain a l nx) : NextChain a' l nx := by
  induction l with
  | nil => trivial
  | cons x r ih =>
    refine ⟨?_, ih (fun y hy => h y (List.mem_cons_of_mem _ hy)) hc.2⟩
    rw [h x (List.mem_cons_self ..)]; exact hc.1

theorem prevChain_congr {l : List Nat} {pv : Option Nat}
    (h : ∀ x ∈ l, (a'.node x).prev = (a.node x).prev) (hc : PrevChain a pv l) : PrevChain a' pv l := by
  induction l generalizing pv with
  | nil => trivial
  | cons x r ih =>
    refine ⟨?_, ih (fun y hy => h y (List.mem_cons_of_mem _ hy)) hc.2⟩
    rw [h x (List.mem_cons_self ..)]; exact hc.1

/-- Giving the last node of a duplicate-free segment a new successor. -/
theorem nextChain_relink {l : List Nat} {nx nx' : Option Nat} (hnd : l.Nodup)
    (h : ∀ y ∈ l, (a'.node y).next = if some y = lastOr l none then nx' else (a.node y).next)
    (hc : NextChain a l nx) : NextChain a' l nx' := by
  rcases List.eq_nil_or_concat l with rfl | ⟨r, y, rfl⟩
  · trivial
  · rw [List.concat_eq_append] at hnd h hc ⊢
    rw [nextChain_append] at hc ⊢
    rw [List.nodup_append] at hnd
    simp only [lastOr_concat] at h
    refine ⟨nextChain_congr (fun z hz => ?_) hc.1, ?_, trivial⟩
    · rw [h z (List.mem_append_left _ hz), if_neg]
      intro e; exact hnd.2.2 z hz y (List.mem_singleton_self y) (Option.some.inj e)
    · rw [h y (List.mem_append_right _ (List.mem_singleton_self y)), if_pos rfl]; rfl

theorem prevChain_relink {l : List Nat} {pv pv' : Option Nat} (hnd : l.Nodup)
    (h : ∀ y ∈ l, (a'.node y).prev = if some y = headOr l none then pv' else (a.node y).prev)
    (hc : PrevChain a pv l) : PrevChain a' pv' l := by
  cases l with
  | nil => trivial
  | cons y r =>
    rw [List.nodup_cons] at hnd
    refine ⟨by rw [h y (List.mem_cons_self ..)]; exact if_pos rfl, prevChain_congr (fun z hz => ?_) hc.2⟩
    rw [h z (List.mem_cons_of_mem _ hz), if_neg]
    intro e; exact hnd.1 (Option.some.inj e ▸ hz)

theorem chain_of_nextChain (a : Arena) : ∀ (l : List Nat) (fuel : Nat), NextChain a l none → l.length ≤ fuel →
    chain a fuel (headOr l none) = l
  | [], fuel, _, _ => by cases fuel <;> rfl
  | x :: r, 0, _, h => by simp at h
  | x :: r, fuel + 1, hc, h => by
    simp only [headOr, chain]
    rw [hc.1, chain_of_nextChain a r fuel hc.2 (by simpa using h)]

theorem Repr.children_eq (h : Repr a kids) (p : Nat) : children a p = kids p := by
  unfold children
  rw [h.first, ← headOr_none]
  apply chain_of_nextChain a _ _ (h.next p)
  -- pigeonhole: the child list has no repetition and lies within `0 .. size-1`
  rw [← List.length_range (n := a.size)]
  exact (h.nodup p).length_le_of_subset (fun x hx => List.mem_range.2 (h.bound x p (h.parent p x hx)))

theorem Repr.congr_kids (h : Repr a kids) (hk : ∀ q, kids' q = kids q) : Repr a kids' :=
  (funext hk : kids' = kids) ▸ h

theorem Repr.links (h : Repr a kids) : Links a :=
  h.congr_kids h.children_eq

theorem insertAfterL_append {x c : Nat} {l1 : List Nat} (l2 : List Nat) (h : x ∉ l1) :
    insertAfterL x c (l1 ++ l2) = l1 ++ insertAfterL x c l2 := by
  induction l1 with
  | nil => rfl
  | cons y r ih =>
    simp only [List.mem_cons, not_or] at h
    simp [insertAfterL, Ne.symm h.1, ih h.2]

theorem insertBeforeL_append {x c : Nat} {l1 : List Nat} (l2 : List Nat) (h : x ∉ l1) :
    insertBeforeL x c (l1 ++ l2) = l1 ++ insertBeforeL x c l2 := by
  induction l1 with
  | nil => rfl
  | cons y r ih =>
    simp only [List.mem_cons, not_or] at h
    simp [insertBeforeL, Ne.symm h.1, ih h.2]

namespace Repr

theorem mem_iff (h : Repr a kids) {x p : Nat} :
    x ∈ kids p ↔ (a.node x).parent = some p :=
  ⟨h.parent p x, h.mem x p⟩

theorem not_mem (h : Repr a kids) {x p q : Nat} (hp : (a.node x).parent = some p) (hq : q ≠ p) : x ∉ kids q :=
  fun hm => hq (Option.some.inj ((h.parent q x hm).symm.trans hp))

/-- With the child list of `p`, everything `Repr` says about it splits in two. -/
theorem split (h : Repr a kids) {p : Nat} {l1 l2 : List Nat} (hk : kids p = l1 ++ l2) :
    (l1.Nodup ∧ l2.Nodup ∧ ∀ y ∈ l1, y ∉ l2) ∧
      (∀ y ∈ l1, (a.node y).parent = some p) ∧ (∀ y ∈ l2, (a.node y).parent = some p) ∧
      (NextChain a l1 (headOr l2 none) ∧ NextChain a l2 none) ∧
      (PrevChain a none l1 ∧ PrevChain a (lastOr l1 none) l2) := by
  have nd := h.nodup p
  have hnc := h.next p
  have hpc := h.prev p
  rw [hk, List.nodup_append] at nd
  rw [hk, nextChain_append] at hnc
  rw [hk, prevChain_append] at hpc
  exact ⟨⟨nd.1, nd.2.1, fun y h1 h2 => nd.2.2 y h1 y h2 rfl⟩,
    fun y hy => h.parent p y (hk ▸ List.mem_append_left _ hy),
    fun y hy => h.parent p y (hk ▸ List.mem_append_right _ hy), hnc, hpc⟩

/-- A child `x` of `p` splits the child list of `p`; its sibling links are the ends of the two parts. -/
theorem around (h : Repr a kids) {x p : Nat} (hp : (a.node x).parent = some p) :
    ∃ l1 l2, kids p = l1 ++ x :: l2 ∧ x ∉ l1 ∧
      (a.node x).prev = lastOr l1 none ∧ (a.node x).next = headOr l2 none := by
  obtain ⟨l1, l2, hk⟩ := List.append_of_mem (h.mem x p hp)
  obtain ⟨⟨-, -, hd⟩, -, -, hnc, hpc⟩ := h.split hk
  exact ⟨l1, l2, hk, fun m => hd x m (List.mem_cons_self ..), hpc.2.1, hnc.2.1⟩

theorem congr_arena (h : Repr a kids)
    (hsize : a'.size = a.size) (hnode : ∀ j, a'.node j = a.node j) : Repr a' kids := by
  have e : a' = a := by
    cases a; cases a'
    exact Arena.mk.injEq .. ▸ ⟨hsize, funext hnode⟩
  exact e ▸ h

/-- The child list of one parent `p` is replaced by `l`: the nodes of `l` are the nodes whose parent is now `p`,
nodes that left the list are parentless and without siblings, all other nodes keep parent and sibling links,
all other parents keep their ends. -/
theorem replace (h : Repr a kids) {p : Nat} {l : List Nat}
    (hsize : a'.size = a.size) (hnodup : l.Nodup) (hbound : ∀ y ∈ l, y < a.size)
    (hfirst : (a'.node p).first = l.head?) (hlast : (a'.node p).last = l.getLast?)
    (hnext : NextChain a' l none) (hprev : PrevChain a' none l)
    (hmem : ∀ y, (a'.node y).parent = some p ↔ y ∈ l)
    (hother : ∀ y q, q ≠ p → ((a'.node y).parent = some q ↔ (a.node y).parent = some q))
    (hframe : ∀ y, (a.node y).parent ≠ some p → (a'.node y).parent ≠ some p →
      (a'.node y).prev = (a.node y).prev ∧ (a'.node y).next = (a.node y).next)
    (hgone : ∀ y, (a.node y).parent = some p → (a'.node y).parent = none →
      (a'.node y).prev = none ∧ (a'.node y).next = none)
    (hends : ∀ q, q ≠ p → (a'.node q).first = (a.node q).first ∧ (a'.node q).last = (a.node q).last) :
    Repr a' (fun q => if q = p then l else kids q) := by
  -- the members of the other child lists keep their sibling links
  have hkeep : ∀ q, q ≠ p → ∀ y ∈ kids q,
      (a'.node y).prev = (a.node y).prev ∧ (a'.node y).next = (a.node y).next := by
    intro q hq y hy
    have hyq := h.parent q y hy
    have hne : some q ≠ some p := fun e => hq (Option.some.inj e)
    exact hframe y (hyq ▸ hne) ((hother y q hq).2 hyq ▸ hne)
  refine ⟨?_, ?_, ?_, ?_, ?_, ?_, ?_, ?_, ?_⟩
  · intro q; by_cases hq : q = p
    · rw [if_pos hq]; exact hnodup
    · rw [if_neg hq]; exact h.nodup q
  · intro q; by_cases hq : q = p
    · rw [if_pos hq, hq]; exact hfirst
    · rw [if_neg hq, (hends q hq).1]; exact h.first q
  · intro q; by_cases hq : q = p
    · rw [if_pos hq, hq]; exact hlast
    · rw [if_neg hq, (hends q hq).2]; exact h.last q
  · intro q y hy; by_cases hq : q = p
    · rw [if_pos hq] at hy; rw [hq]; exact (hmem y).2 hy
    · rw [if_neg hq] at hy; exact (hother y q hq).2 (h.parent q y hy)
  · intro q; by_cases hq : q = p
    · rw [if_pos hq]; exact hnext
    · rw [if_neg hq]; exact nextChain_congr (fun y hy => (hkeep q hq y hy).2) (h.next q)
  · intro q; by_cases hq : q = p
    · rw [if_pos hq]; exact hprev
    · rw [if_neg hq]; exact prevChain_congr (fun y hy => (hkeep q hq y hy).1) (h.prev q)
  · intro y q hy; by_cases hq : q = p
    · rw [if_pos hq]; exact (hmem y).1 (hq ▸ hy)
    · rw [if_neg hq]; exact h.mem y q ((hother y q hq).1 hy)
  · intro y hy
    by_cases hyp : (a.node y).parent = some p
    · exact hgone y hyp hy
    · rw [(hframe y hyp (by rw [hy]; nofun)).1, (hframe y hyp (by rw [hy]; nofun)).2]
      cases hq : (a.node y).parent with
      | none => exact h.root y hq
      | some q =>
        have hqp : q ≠ p := fun e => hyp (e ▸ hq)
        rw [(hother y q hqp).2 hq] at hy; cases hy
  · intro y q hy; rw [hsize]; by_cases hq : q = p
    · exact hbound y ((hmem y).1 (hq ▸ hy))
    · exact h.bound y q ((hother y q hq).1 hy)

/-- The child list of `p` has at most one node `mid` between the nodes `pv` and `nx` (each may be absent).
`mid` is taken out and the parentless node `mid'`, if there is one, put in its place: any arena whose nodes are
these functions of the old nodes represents the new forest. -/
theorem splice (h : Repr a kids) {p : Nat} {l1 l2 : List Nat} {mid mid' pv nx : Option Nat}
    (hk : kids p = l1 ++ (mid.toList ++ l2)) (hpv : lastOr l1 none = pv) (hnx : headOr l2 none = nx)
    (hnew : ∀ c, some c = mid' → (a.node c).parent = none ∧ c < a.size) (hsize : a'.size = a.size)
    (hnode : ∀ j, a'.node j =
      { parent := if some j = mid' then some p else if some j = mid then none else (a.node j).parent
        prev := if some j = nx then mid'.or pv else if some j = mid' then pv else
          if some j = mid then none else (a.node j).prev
        next := if some j = pv then mid'.or nx else if some j = mid' then nx else
          if some j = mid then none else (a.node j).next
        first := if pv = none ∧ j = p then mid'.or nx else (a.node j).first
        last := if nx = none ∧ j = p then mid'.or pv else (a.node j).last }) :
    Repr a' (fun q => if q = p then l1 ++ (mid'.toList ++ l2) else kids q) := by
  subst hpv hnx
  obtain ⟨⟨nd1, ndm2, hd1⟩, hp1, hpm2, hnc, hpc⟩ := h.split hk
  rw [List.nodup_append] at ndm2
  rw [nextChain_append] at hnc
  rw [prevChain_append] at hpc
  have hd12 : ∀ y ∈ l1, y ∉ l2 := fun y m m2 => hd1 y m (List.mem_append_right _ m2)
  have hp2 : ∀ y ∈ l2, (a.node y).parent = some p := fun y m => hpm2 y (List.mem_append_right _ m)
  -- the node taken out is a child of `p` outside `l1` and `l2`, the node put in is not a child of `p`
  have hmid : ∀ y, some y = mid → (a.node y).parent = some p ∧ y ∉ l1 ∧ y ∉ l2 := fun y e =>
    have m : y ∈ mid.toList := Option.mem_toList.2 e.symm
    ⟨hpm2 y (List.mem_append_left _ m), fun m1 => hd1 y m1 (List.mem_append_left _ m),
      fun m2 => ndm2.2.2 y m y m2 rfl⟩
  have hnew1 : ∀ y ∈ l1, some y ≠ mid' := fun y m e => by cases (hp1 y m).symm.trans (hnew y e).1
  have hnew2 : ∀ y ∈ l2, some y ≠ mid' := fun y m e => by cases (hp2 y m).symm.trans (hnew y e).1
  have hpar : ∀ y, (a'.node y).parent =
      if some y = mid' then some p else if some y = mid then none else (a.node y).parent := fun y => by rw [hnode]
  have hprev : ∀ y, some y ≠ mid' → some y ≠ mid → (a'.node y).prev =
      if some y = headOr l2 none then mid'.or (lastOr l1 none) else (a.node y).prev :=
    fun y e' e => by simp only [hnode, if_neg e', if_neg e]
  have hnext : ∀ y, some y ≠ mid' → some y ≠ mid → (a'.node y).next =
      if some y = lastOr l1 none then mid'.or (headOr l2 none) else (a.node y).next :=
    fun y e' e => by simp only [hnode, if_neg e', if_neg e]
  apply h.replace (p := p) (l := l1 ++ (mid'.toList ++ l2)) hsize
  case hnodup =>
    refine List.nodup_append.2 ⟨nd1, List.nodup_append.2 ⟨by cases mid' <;> simp, ndm2.2.1, ?_⟩, ?_⟩
    · intro y hy z hz e; exact hnew2 z hz (e ▸ (Option.mem_toList.1 hy).symm)
    · intro y hy z hz e; subst e
      rcases List.mem_append.1 hz with hz | hz
      · exact hnew1 y hy (Option.mem_toList.1 hz).symm
      · exact hd12 y hy hz
  case hbound =>
    intro y hy
    rcases List.mem_append.1 hy with hy | hy
    · exact h.bound y p (hp1 y hy)
    · rcases List.mem_append.1 hy with hy | hy
      · exact (hnew y (Option.mem_toList.1 hy).symm).2
      · exact h.bound y p (hp2 y hy)
  case hfirst =>
    rw [hnode]
    cases l1 with
    | nil => cases mid' <;> simp [lastOr, headOr_none]
    | cons y r => simp [lastOr_eq_none, h.first p, hk]
  case hlast =>
    rw [hnode]
    cases l2 with
    | nil => cases mid' <;> simp [headOr, lastOr_none]
    | cons y r => simp [headOr, h.last p, hk, List.getLast?_append, List.getLast?_cons]
  case hnext =>
    rw [nextChain_append, nextChain_append]
    refine ⟨?_, ?_, nextChain_congr (fun y hy => ?_) hnc.2.2⟩
    · have e : headOr (mid'.toList ++ l2) none = mid'.or (headOr l2 none) := by cases mid' <;> rfl
      rw [e]
      exact nextChain_relink nd1 (fun y hy => hnext y (hnew1 y hy) (fun e => (hmid y e).2.1 hy)) hnc.1
    · cases hm : mid' with
      | none => trivial
      | some c =>
        refine ⟨?_, trivial⟩
        simp only [hnode, hm, if_neg (lastOr_ne (fun m => hnew1 c m hm.symm)), if_true]; rfl
    · rw [hnext y (hnew2 y hy) (fun e => (hmid y e).2.2 hy), if_neg (lastOr_ne (fun m => hd12 y m hy))]
  case hprev =>
    rw [prevChain_append, prevChain_append]
    refine ⟨prevChain_congr (fun y hy => ?_) hpc.1, ?_, ?_⟩
    · rw [hprev y (hnew1 y hy) (fun e => (hmid y e).2.1 hy), if_neg (headOr_ne (hd12 y hy))]
    · cases hm : mid' with
      | none => trivial
      | some c =>
        refine ⟨?_, trivial⟩
        simp only [hnode, hm, if_neg (headOr_ne (fun m => hnew2 c m hm.symm)), if_true]
    · have e : lastOr mid'.toList (lastOr l1 none) = mid'.or (lastOr l1 none) := by cases mid' <;> rfl
      rw [e]
      exact prevChain_relink ndm2.2.1 (fun y hy => hprev y (hnew2 y hy) (fun e => (hmid y e).2.2 hy)) hpc.2.2
  case hmem =>
    intro y
    rw [hpar]
    by_cases e' : some y = mid'
    · simp [← e']
    · by_cases e : some y = mid
      · subst e; simp [e', hmid y rfl, Ne.symm e']
      · rw [if_neg e', if_neg e, ← h.mem_iff, hk]; simp [Ne.symm e', Ne.symm e]
  case hother =>
    intro y q hq
    rw [hpar]
    by_cases e' : some y = mid'
    · rw [if_pos e', (hnew y e').1]; simp [Ne.symm hq]
    · by_cases e : some y = mid
      · rw [if_neg e', if_pos e, (hmid y e).1]; simp [Ne.symm hq]
      · rw [if_neg e', if_neg e]
  case hframe =>
    intro y hy hy'
    have e' : some y ≠ mid' := fun e => hy' (by rw [hpar, if_pos e])
    have e : some y ≠ mid := fun e => hy (hmid y e).1
    rw [hprev y e' e, hnext y e' e, if_neg (headOr_ne (fun m => hy (hp2 y m))),
      if_neg (lastOr_ne (fun m => hy (hp1 y m)))]
    exact ⟨rfl, rfl⟩
  case hgone =>
    intro y hy hy'
    rw [hpar] at hy'
    by_cases e' : some y = mid'
    · rw [if_pos e'] at hy'; cases hy'
    · by_cases e : some y = mid
      · simp only [hnode, if_neg e', if_pos e, if_neg (headOr_ne (hmid y e).2.2), if_neg (lastOr_ne (hmid y e).2.1),
          and_self]
      · rw [if_neg e', if_neg e, hy] at hy'; cases hy'
  case hends =>
    intro q hq
    rw [hnode]
    simp [hq]

end Repr

theorem repr_detach (h : Repr a kids) (x : Nat) :
    Repr (detach a x) (fun q => (kids q).erase x) := by
  cases hp : (a.node x).parent with
  | none =>
    -- a parentless node has no links to undo
    have hr := h.root x hp
    refine (h.congr_arena (detach_size a x) (fun j => ?_)).congr_kids ?_
    · rw [detach_node, hp, hr.1, hr.2]
      by_cases e : j = x
      · subst e; cases hj : a.node j; simp_all
      · simp [e]
    · intro q; exact List.erase_of_not_mem (fun hm => by rw [h.parent q x hm] at hp; cases hp)
  | some p =>
    obtain ⟨l1, l2, hk, hx1, hxv, hxn⟩ := h.around hp
    refine (h.splice (mid := some x) (mid' := none) hk hxv.symm hxn.symm nofun (detach_size a x)
      (fun j => ?_)).congr_kids (fun q => ?_)
    · rw [detach_node, hp]; simp [eq_comm]
    · by_cases hq : q = p
      · subst hq; rw [if_pos rfl, hk, List.erase_append_right _ hx1, List.erase_cons_head]; rfl
      · rw [if_neg hq]
        exact List.erase_of_not_mem (h.not_mem hp hq)

/-- All inserting mutators detach the new node first: it is then parentless and without siblings. -/
theorem Repr.detached (h : Repr a kids) {c : Nat} (hcs : c < a.size) :
    Repr (detach a c) (fun q => (kids q).erase c) ∧
      (((detach a c).node c).parent = none ∧ c < (detach a c).size) ∧
      ((detach a c).node c).prev = none ∧ ((detach a c).node c).next = none := by
  have h1 := repr_detach h c
  have hc1 : ((detach a c).node c).parent = none := by rw [detach_parent, if_pos rfl]
  exact ⟨h1, ⟨hc1, (detach_size a c).symm ▸ hcs⟩, h1.root c hc1⟩

theorem repr_append (h : Repr a kids) {p c : Nat} (hcs : c < a.size) :
    Repr (append a p c) (fun q => if q = p then (kids p).erase c ++ [c] else (kids q).erase c) := by
  obtain ⟨h1, hc1, hroot⟩ := h.detached hcs
  simp only [append, set_node]
  generalize detach a c = a1 at h1 hc1 hroot ⊢
  refine h1.splice (l1 := (kids p).erase c) (l2 := []) (mid := none) (mid' := some c) (pv := (a1.node p).last)
    (nx := none) (List.append_nil _).symm (by rw [lastOr_none, h1.last p]) rfl
    (fun _ e => Option.some.inj e ▸ hc1) ?_ ?_
  · cases (a1.node p).last <;> simp
  -- the two branches of the `if let`: after `simp` it remains that the cell taken first is overwritten and that
  -- `c` had no siblings (`hroot`); the size facts are cleared because they would set `grind` to arithmetic
  · clear hc1 hcs
    intro j; cases hl : (a1.node p).last <;> simp [set_node] <;> grind

theorem repr_prepend (h : Repr a kids) {p c : Nat} (hcs : c < a.size) :
    Repr (prepend a p c) (fun q => if q = p then c :: (kids p).erase c else (kids q).erase c) := by
  obtain ⟨h1, hc1, hroot⟩ := h.detached hcs
  simp only [prepend, set_node]
  generalize detach a c = a1 at h1 hc1 hroot ⊢
  refine h1.splice (l1 := []) (l2 := (kids p).erase c) (mid := none) (mid' := some c) (pv := none)
    (nx := (a1.node p).first) rfl rfl (by rw [headOr_none, h1.first p]) (fun _ e => Option.some.inj e ▸ hc1) ?_ ?_
  · cases (a1.node p).first <;> simp
  · clear hc1 hcs
    intro j; cases hl : (a1.node p).first <;> simp [set_node] <;> grind

theorem repr_insertAfter (h : Repr a kids) {x c p : Nat} (hcs : c < a.size)
    (hxc : x ≠ c) (hxp : (a.node x).parent = some p) :
    Repr (insertAfter a x c) (fun q => insertAfterL x c ((kids q).erase c)) := by
  obtain ⟨h1, hc1, hroot⟩ := h.detached hcs
  have hx1 : ((detach a c).node x).parent = some p := by rw [detach_parent, if_neg hxc]; exact hxp
  simp only [insertAfter, set_node]
  generalize detach a c = a1 at h1 hc1 hroot hx1 ⊢
  obtain ⟨l1, l2, hk, hxl1, -, hxn⟩ := h1.around hx1
  refine (h1.splice (l1 := l1 ++ [x]) (l2 := l2) (mid := none) (mid' := some c) (pv := some x)
    (nx := (a1.node x).next) (by rw [hk, List.append_assoc]; rfl) (lastOr_concat ..) hxn.symm
    (fun _ e => Option.some.inj e ▸ hc1) ?_ ?_).congr_kids ?_
  · cases (a1.node x).next <;> simp [hx1]
  · clear hc1 hcs
    intro j; cases hl : (a1.node x).next <;> simp [hx1, set_node] <;> grind
  · intro q
    by_cases hq : q = p
    · subst hq; rw [if_pos rfl, hk, insertAfterL_append _ hxl1, List.append_assoc]; simp [insertAfterL]
    · rw [if_neg hq]
      simpa [insertAfterL] using insertAfterL_append (c := c) [] (h1.not_mem hx1 hq)

theorem repr_insertBefore (h : Repr a kids) {x c p : Nat} (hcs : c < a.size)
    (hxc : x ≠ c) (hxp : (a.node x).parent = some p) :
    Repr (insertBefore a x c) (fun q => insertBeforeL x c ((kids q).erase c)) := by
  obtain ⟨h1, hc1, hroot⟩ := h.detached hcs
  have hx1 : ((detach a c).node x).parent = some p := by rw [detach_parent, if_neg hxc]; exact hxp
  simp only [insertBefore, set_node]
  generalize detach a c = a1 at h1 hc1 hroot hx1 ⊢
  obtain ⟨l1, l2, hk, hxl1, hxv, -⟩ := h1.around hx1
  refine (h1.splice (l1 := l1) (l2 := x :: l2) (mid := none) (mid' := some c) (pv := (a1.node x).prev)
    (nx := some x) hk hxv.symm rfl (fun _ e => Option.some.inj e ▸ hc1) ?_ ?_).congr_kids ?_
  · cases (a1.node x).prev <;> simp [hx1]
  · clear hc1 hcs
    intro j; cases hl : (a1.node x).prev <;> simp [hx1, set_node] <;> grind
  · intro q
    by_cases hq : q = p
    · subst hq; rw [if_pos rfl, hk, insertBeforeL_append _ hxl1]; simp [insertBeforeL]
    · rw [if_neg hq]
      simpa [insertBeforeL] using insertBeforeL_append (c := c) [] (h1.not_mem hx1 hq)

theorem Anc.trans' {x y z : Nat} (h1 : Anc a x y) (h2 : Anc a y z) : Anc a x z := by
  induction h1 with
  | step h => exact Anc.trans h h2
  | trans h _ ih => exact Anc.trans h (ih h2)

/-- Re-parenting one node `c`: every new ancestor pair is an old one or goes through the new edge. -/
theorem anc_reparent {c : Nat} {newp : Option Nat}
    (hpar : ∀ j, (a'.node j).parent = if j = c then newp else (a.node j).parent) {x y : Nat} (h : Anc a' x y) :
    Anc a x y ∨ ∃ p, newp = some p ∧ (x = c ∨ Anc a x c) ∧ (y = p ∨ Anc a p y) := by
  -- one step up in `a'` is a step in `a`, or the new edge
  have hstep : ∀ {x q}, (a'.node x).parent = some q → (a.node x).parent = some q ∨ x = c ∧ newp = some q := by
    intro x q hq
    rw [hpar] at hq
    split at hq
    · exact Or.inr ⟨‹x = c›, hq⟩
    · exact Or.inl hq
  induction h with
  | step hq =>
    rcases hstep hq with hq | ⟨hx, hq⟩
    · exact Or.inl (Anc.step hq)
    · exact Or.inr ⟨_, hq, Or.inl hx, Or.inl rfl⟩
  | trans hq _ ih =>
    rcases hstep hq with hq | ⟨hx, hq⟩
    · rcases ih with ih | ⟨p, hp, hc, hy⟩
      · exact Or.inl (Anc.trans hq ih)
      · exact Or.inr ⟨p, hp, Or.inr (hc.elim (fun e => Anc.step (e ▸ hq)) (Anc.trans hq)), hy⟩
    · rcases ih with ih | ⟨p, hp, _, hy⟩
      · exact Or.inr ⟨_, hq, Or.inl hx, Or.inr ih⟩
      · exact Or.inr ⟨p, hp, Or.inl hx, hy⟩

theorem acyclic_reparent {c : Nat} {newp : Option Nat}
    (hpar : ∀ j, (a'.node j).parent = if j = c then newp else (a.node j).parent)
    (h : Acyclic a) (hnew : ∀ p, newp = some p → p ≠ c ∧ ¬ Anc a p c) : Acyclic a' := by
  intro x hx
  rcases anc_reparent hpar hx with h1 | ⟨p, hp, hc, hy⟩
  · exact h x h1
  · obtain ⟨hpc, hnc⟩ := hnew p hp
    rcases hc with hc | hc <;> rcases hy with hy | hy
    · exact hpc (hy.symm.trans hc)
    · exact hnc (hc ▸ hy)
    · exact hnc (hy ▸ hc)
    · exact hnc (hy.trans' hc)

theorem append_parent (a : Arena) (p c j : Nat) :
    ((append a p c).node j).parent = if j = c then some p else (a.node j).parent := by
  simp only [append, set_parent]
  split <;> simp only [set_parent, detach_parent] <;> split <;> rfl

theorem prepend_parent (a : Arena) (p c j : Nat) :
    ((prepend a p c).node j).parent = if j = c then some p else (a.node j).parent := by
  simp only [prepend, set_parent]
  split <;> simp only [set_parent, detach_parent] <;> split <;> rfl

theorem insertAfter_parent (a : Arena) {x c : Nat} (hxc : x ≠ c) (j : Nat) :
    ((insertAfter a x c).node j).parent = if j = c then (a.node x).parent else (a.node j).parent := by
  simp only [insertAfter, set_parent]
  split
  · simp only [set_parent, detach_parent, if_neg hxc]; split <;> rfl
  · split <;> simp only [set_parent, detach_parent, if_neg hxc] <;> split <;> rfl

theorem insertBefore_parent (a : Arena) {x c : Nat} (hxc : x ≠ c) (j : Nat) :
    ((insertBefore a x c).node j).parent = if j = c then (a.node x).parent else (a.node j).parent := by
  simp only [insertBefore, set_parent]
  split
  · simp only [set_parent, detach_parent, if_neg hxc]; split <;> rfl
  · split <;> simp only [set_parent, detach_parent, if_neg hxc] <;> split <;> rfl

end Comrak.ArenaTree
