/-
Lexing the model's own spelling: `xlexLoop` run over the bytes of a well-formed token
(`tokGood`) produces exactly the token's events.  Every piece of a token (indentation, a name,
escaped text) is a run that takes the lexer from `S acc` to `S (piece.reverse ++ acc)` for one
family of states `S` (`xlexLoop_flatMap`); the pieces are chained with `xlexLoop_append_eq`.
-/
import Comrak.Lemmas.Xml
namespace Comrak
open Bytes

theorem xlexLoop_append (st : XLexSt) (out : List XEv) (a b : Bytes) :
    xlexLoop st out (a ++ b) = xlexLoop (xlexLoop st out a).1 (xlexLoop st out a).2 b := by
  induction a generalizing st out with
  | nil => simp [xlexLoop]
  | cons c r ih => simp only [List.cons_append, xlexLoop]; exact ih _ _

theorem xlexLoop_append_eq {st st' : XLexSt} {out out' : List XEv} {a : Bytes} (b : Bytes)
    (h : xlexLoop st out a = (st', out')) : xlexLoop st out (a ++ b) = xlexLoop st' out' b := by
  rw [xlexLoop_append, h]

theorem xlexLoop_cons (st : XLexSt) (out : List XEv) (c : UInt8) (r : Bytes) :
    xlexLoop st out (c :: r) = xlexLoop (xlexStep st out c).1 (xlexStep st out c).2 r := rfl

theorem nameStart_facts (c : UInt8) (h : xmlNameStart c = true) :
    c ≠ 0x2F ∧ c ≠ 0x3E ∧ xmlWs c = false := by
  simp only [xmlWs, Bool.or_eq_false_iff, beq_eq_false_iff_ne]
  refine ⟨?_, ?_, ⟨⟨?_, ?_⟩, ?_⟩, ?_⟩ <;> (rintro rfl; exact absurd h (by decide))

theorem xmlSafe_facts : ∀ c : UInt8, xmlUnsafe c = false → c ≠ 0x22 ∧ c ≠ 0x26 ∧ c ≠ 0x3C ∧ c ≠ 0x3E :=
  fun c h => (htmlUnsafe_eq_false c).mp (xmlUnsafe_eq_htmlUnsafe c ▸ h)

theorem xlexLoop_flatMap (S : Bytes → XLexSt) (out : List XEv) (f : UInt8 → Bytes) (l : Bytes)
    (step : ∀ b ∈ l, ∀ acc, xlexLoop (S acc) out (f b) = (S (b :: acc), out)) (acc : Bytes) :
    xlexLoop (S acc) out (l.flatMap f) = (S (l.reverse ++ acc), out) := by
  induction l generalizing acc with
  | nil => rfl
  | cons b r ih =>
    rw [List.flatMap_cons, xlexLoop_append_eq _ (step b List.mem_cons_self acc),
      ih (fun c hc => step c (List.mem_cons_of_mem _ hc))]
    simp

theorem xlexLoop_chars (S : Bytes → XLexSt) (out : List XEv) (r : Bytes)
    (step : ∀ c ∈ r, ∀ acc, xlexStep (S acc) out c = (S (c :: acc), out)) (acc : Bytes) :
    xlexLoop (S acc) out r = (S (r.reverse ++ acc), out) := by
  have := xlexLoop_flatMap S out (fun c => [c]) r (fun c hc acc => by rw [xlexLoop_cons, step c hc]; rfl) acc
  rwa [List.flatMap_singleton'] at this

/-- A legal name read in a family of states `S acc` (`acc` the reversed name so far) that is entered
    from `E` by a name-start character and kept by name characters.  The three places where the
    reader meets a name (element, attribute, end tag) are instances. -/
theorem xlex_legalName (E : XLexSt) (S : Bytes → XLexSt) (out : List XEv) (n : Bytes)
    (h : xmlLegalName n = true)
    (start : ∀ c, xmlNameStart c = true → xlexStep E out c = (S [c], out))
    (step : ∀ c acc, xmlNameChar c = true → acc ≠ [] → xlexStep (S acc) out c = (S (c :: acc), out)) :
    xlexLoop E out n = (S n.reverse, out) := by
  cases n with
  | nil => simp [xmlLegalName] at h
  | cons c r =>
    simp only [xmlLegalName, Bool.and_eq_true] at h
    have := xlexLoop_chars (fun acc => S (acc ++ [c])) out r
      (fun d hd acc => step d _ (List.all_eq_true.mp h.2 d hd) (by simp)) []
    rw [xlexLoop_cons, start c h.1]
    simpa using this

theorem xlex_name (n : Bytes) (out : List XEv) (h : xmlLegalName n = true) :
    xlexLoop .lt out n = (.name n.reverse, out) :=
  xlex_legalName .lt .name out n h
    (fun c hc => by simp [xlexStep, (nameStart_facts c hc).1, hc])
    (fun c acc hc _ => by simp [xlexStep, hc])

theorem xlex_attrName (n : Bytes) (as : List (Bytes × Bytes)) (an : Bytes) (out : List XEv)
    (h : xmlLegalName an = true) :
    xlexLoop (.attrs n as) out an = (.attrName n as an.reverse, out) :=
  xlex_legalName (.attrs n as) (.attrName n as) out an h
    (fun c hc => by
      obtain ⟨h2, h3, h4⟩ := nameStart_facts c hc
      simp [xlexStep, h2, h3, h4, hc])
    (fun c acc hc _ => by simp [xlexStep, hc])

theorem xlex_endTag (n : Bytes) (out : List XEv) (rest : Bytes) (h : xmlLegalName n = true) :
    xlexLoop .lt out (0x2F :: (n ++ 0x3E :: rest)) = xlexLoop (.text []) (.close n :: out) rest := by
  have hn : xlexLoop (.closeName []) out n = (.closeName n.reverse, out) :=
    xlex_legalName (.closeName []) .closeName out n h
      (fun c hc => by simp [xlexStep, hc])
      (fun c acc hc hne => by cases acc with
        | nil => exact absurd rfl hne
        | cons a t => simp [xlexStep, hc])
  have hgt : xlexStep (.closeName n.reverse) out 0x3E = (.text [], .close n :: out) := by
    have hnc : xmlNameChar 0x3E = false := by decide
    cases n with
    | nil => simp [xmlLegalName] at h
    | cons c r => simp [xlexStep, hnc]
  rw [xlexLoop_cons, show xlexStep .lt out 0x2F = (.closeName [], out) from rfl,
    xlexLoop_append_eq _ hn, xlexLoop_cons, hgt]

theorem xlex_text_escByte (b : UInt8) (acc : Bytes) (out : List XEv) :
    xlexLoop (.text acc) out (escByte b) = (.text (b :: acc), out) := by
  refine escByte_cases (P := fun b e => xlexLoop (.text acc) out e = (.text (b :: acc), out))
    rfl rfl rfl rfl ?_ b
  intro b _ h2 h3 h4
  simp [xlexLoop, xlexStep, h2, h3, h4]

theorem xlex_text_escape (l acc : Bytes) (out : List XEv) :
    xlexLoop (.text acc) out (escape l) = (.text (l.reverse ++ acc), out) :=
  xlexLoop_flatMap .text out escByte l (fun b _ acc => xlex_text_escByte b acc out) acc

theorem xlex_value_escByte (n : Bytes) (as : List (Bytes × Bytes)) (an : Bytes) (b : UInt8) (v : Bytes) (out : List XEv) :
    xlexLoop (.value n as an v) out (escByte b) = (.value n as an (b :: v), out) := by
  refine escByte_cases
    (P := fun b e => xlexLoop (.value n as an v) out e = (.value n as an (b :: v), out))
    rfl rfl rfl rfl ?_ b
  intro b h1 h2 h3 h4
  simp [xlexLoop, xlexStep, h1, h2, h3, h4]

theorem xlex_value_escape (n : Bytes) (as : List (Bytes × Bytes)) (an p v : Bytes) (out : List XEv) :
    xlexLoop (.value n as an v) out (escape p) = (.value n as an (p.reverse ++ v), out) :=
  xlexLoop_flatMap (.value n as an) out escByte p (fun b _ v => xlex_value_escByte n as an b v out) v

/-- The lexer state after the element name and the attributes `as` read so far. -/
def tagSt (n : Bytes) (as : List (Bytes × Bytes)) : XLexSt :=
  if as.isEmpty then .name n.reverse else .afterValue n as

theorem tagSt_space (n : Bytes) (as : List (Bytes × Bytes)) (out : List XEv) :
    xlexStep (tagSt n as) out 0x20 = (.attrs n as, out) := by
  have hnc : xmlNameChar 0x20 = false := by decide
  have hws : xmlWs 0x20 = true := by decide
  cases as <;> simp [tagSt, xlexStep, hnc, hws]

theorem tagSt_gt (n : Bytes) (as : List (Bytes × Bytes)) (out : List XEv) :
    xlexStep (tagSt n as) out 0x3E = (.text [], .opn n as :: out) := by
  have hnc : xmlNameChar 0x3E = false := by decide
  have hws : xmlWs 0x3E = false := by decide
  cases as <;> simp [tagSt, xlexStep, hnc, hws]

def XVal.payload : XVal → Bytes
  | .esc v => v
  | .lit v => v

theorem spell_eq_escape_payload (v : XVal) (h : valOk v = true) : v.spell = escape v.payload := by
  cases v with
  | esc p => simp [XVal.spell, XVal.payload, xmlEscape_eq]
  | lit w => simp [XVal.spell, XVal.payload, escape_of_safeB w (by simpa [valOk] using h)]

/-- Attributes a start tag may carry after `as`: legal fresh names, escaped values. -/
def attrsGood (as : List (Bytes × Bytes)) : List XAttr → Bool
  | [] => true
  | .mk n v :: r =>
    xmlLegalName n && valOk v && !(as.any fun a => a.1 == n) && attrsGood (as ++ [(n, v.payload)]) r

theorem attrsGood_mem {as : List (Bytes × Bytes)} {l : List XAttr} (h : attrsGood as l = true)
    {n : Bytes} {v : XVal} (hm : XAttr.mk n v ∈ l) : xmlLegalName n = true ∧ valOk v = true := by
  induction l generalizing as with
  | nil => cases hm
  | cons a r ih =>
    cases a with
    | mk m w =>
      simp only [attrsGood, Bool.and_eq_true] at h
      rcases List.mem_cons.mp hm with e | hm
      · cases e; exact ⟨h.1.1.1, h.1.1.2⟩
      · exact ih h.2 hm

theorem attrsGood_of_cons (p : Bytes × Bytes) (as : List (Bytes × Bytes)) (l : List XAttr)
    (h : attrsGood (p :: as) l = true) : attrsGood as l = true := by
  induction l generalizing as with
  | nil => rfl
  | cons a r ih =>
    cases a with
    | mk m w =>
      simp only [attrsGood, Bool.and_eq_true, List.any_cons, Bool.not_eq_true', Bool.or_eq_false_iff] at h ⊢
      exact ⟨⟨h.1.1, h.1.2.2⟩, ih _ h.2⟩

theorem attrPairs_cons_mk (n : Bytes) (v : XVal) (r : List XAttr) :
    attrPairs (.mk n v :: r) = (n, v.payload) :: attrPairs r := by
  cases v <;> simp [attrPairs, XVal.payload]

theorem xlex_attr (n : Bytes) (as : List (Bytes × Bytes)) (an : Bytes) (v : XVal) (out : List XEv)
    (hn : xmlLegalName an = true) (hv : valOk v = true) (hf : (as.any fun a => a.1 == an) = false) :
    xlexLoop (tagSt n as) out (XAttr.spell (.mk an v)) = (tagSt n (as ++ [(an, v.payload)]), out) := by
  have heqc : xmlNameChar 0x3D = false := by decide
  simp only [XAttr.spell, List.cons_append, List.nil_append, List.append_assoc, xlexLoop_cons, tagSt_space]
  rw [xlexLoop_append_eq _ (xlex_attrName n as an out hn)]
  have h1 : xlexStep (.attrName n as an.reverse) out 0x3D = (.afterEq n as an, out) := by
    simp [xlexStep, heqc]
  have h2 : xlexStep (.afterEq n as an) out 0x22 = (.value n as an [], out) := by simp [xlexStep]
  simp only [xlexLoop_cons, h1, h2]
  rw [spell_eq_escape_payload v hv, xlexLoop_append_eq _ (xlex_value_escape n as an v.payload [] out)]
  have h3 : ∀ w : Bytes, xlexStep (.value n as an w) out 0x22 =
      (.afterValue n (as ++ [(an, w.reverse)]), out) := by
    intro w; simp [xlexStep, hf]
  simp [xlexLoop, h3, tagSt]

theorem xlex_attrs (n : Bytes) (l : List XAttr) (as : List (Bytes × Bytes)) (out : List XEv)
    (h : attrsGood as l = true) :
    xlexLoop (tagSt n as) out (spellXAttrs l) = (tagSt n (as ++ attrPairs l), out) := by
  induction l generalizing as with
  | nil => simp [spellXAttrs, xlexLoop, attrPairs]
  | cons a r ih =>
    cases a with
    | mk an v =>
      simp only [attrsGood, Bool.and_eq_true, Bool.not_eq_true'] at h
      obtain ⟨⟨⟨h1, h2⟩, h3⟩, h4⟩ := h
      have : spellXAttrs (.mk an v :: r) = XAttr.spell (.mk an v) ++ spellXAttrs r := by simp [spellXAttrs]
      rw [this, xlexLoop_append_eq _ (xlex_attr n as an v out h1 h2 h3), ih _ h4, attrPairs_cons_mk]
      simp

def tokGood (t : XTok) : Bool := xmlLegalName t.name && attrsGood [] t.attrs

/-- Text event for pending text `w` (forward order), if any. -/
def wsEv (w : Bytes) : List XEv := if w.isEmpty then [] else [.text w]

theorem xflush_eq (acc : Bytes) (out : List XEv) : xflush acc out = (wsEv acc.reverse).reverse ++ out := by
  unfold xflush wsEv
  cases acc <;> simp

/-- Events of one token, given the text `pre` pending before it. -/
def tokEvs (pre : Bytes) : XTok → List XEv
  | .opn i n as => wsEv (pre ++ indentBytes i) ++ [.opn n (attrPairs as)]
  | .leaf i n as l => wsEv (pre ++ indentBytes i) ++ [.opn n (attrPairs as)] ++ wsEv l ++ [.close n]
  | .empty i n as => wsEv (pre ++ indentBytes i) ++ [.empty n (attrPairs as)]
  | .close i n => wsEv (pre ++ indentBytes i) ++ [.close n]

def nlB : Bytes := [0x0A]

theorem xlexStep_text_lt (acc : Bytes) (out : List XEv) :
    xlexStep (.text acc) out 0x3C = (.lt, xflush acc out) := rfl

theorem indent_rev (i : Nat) : (indentBytes i).reverse = indentBytes i := by
  simp [indentBytes]

theorem xlex_indent_lt (i : Nat) (acc : Bytes) (out : List XEv) (rest : Bytes) :
    xlexLoop (.text acc) out (indentBytes i ++ 0x3C :: rest) =
      xlexLoop .lt ((wsEv (acc.reverse ++ indentBytes i)).reverse ++ out) rest := by
  have hi : xlexLoop (.text acc) out (indentBytes i) = (.text (indentBytes i ++ acc), out) := by
    rw [xlexLoop_chars .text out _ (fun c hc acc => by rw [List.eq_of_mem_replicate hc]; rfl), indent_rev]
  rw [xlexLoop_append_eq _ hi, xlexLoop_cons, xlexStep_text_lt, xflush_eq]
  simp [indent_rev]

theorem xlex_startTag (i : Nat) (n : Bytes) (as : List XAttr) (acc : Bytes) (out : List XEv) (rest : Bytes)
    (hn : xmlLegalName n = true) (ha : attrsGood [] as = true) :
    xlexLoop (.text acc) out (indentBytes i ++ 0x3C :: (n ++ (spellXAttrs as ++ rest))) =
      xlexLoop (tagSt n (attrPairs as)) ((wsEv (acc.reverse ++ indentBytes i)).reverse ++ out) rest := by
  rw [xlex_indent_lt, xlexLoop_append_eq _ (xlex_name n _ hn)]
  have := xlex_attrs n as [] ((wsEv (acc.reverse ++ indentBytes i)).reverse ++ out) ha
  rw [List.nil_append] at this
  exact xlexLoop_append_eq _ this

theorem xlex_tok (tok : XTok) (acc : Bytes) (out : List XEv) (h : tokGood tok = true) :
    xlexLoop (.text acc) out tok.spell = (.text nlB.reverse, (tokEvs acc.reverse tok).reverse ++ out) := by
  simp only [tokGood, Bool.and_eq_true] at h
  cases tok <;> simp only [XTok.spell, List.append_assoc, List.cons_append, List.nil_append]
  case opn i n as =>
    rw [xlex_startTag i n as _ _ _ h.1 h.2, xlexLoop_cons, tagSt_gt]
    simp [xlexLoop, xlexStep, tokEvs, nlB]
  case empty i n as =>
    rw [xlex_startTag i n as _ _ _ h.1 h.2, xlexLoop_cons, tagSt_space]
    have hws : xmlWs 0x2F = false := by decide
    simp [xlexLoop, xlexStep, hws, tokEvs, nlB]
  case close i n =>
    rw [xlex_indent_lt, xlex_endTag n _ _ h.1]
    simp [xlexLoop, xlexStep, tokEvs, nlB]
  case leaf i n as l =>
    rw [xlex_startTag i n as _ _ _ h.1 h.2, xlexLoop_cons, tagSt_gt, xmlEscape_eq,
      xlexLoop_append_eq _ (xlex_text_escape l [] _), xlexLoop_cons, xlexStep_text_lt, xflush_eq,
      xlex_endTag n _ _ h.1]
    simp [xlexLoop, xlexStep, tokEvs, nlB]

/-- Events of a token list: the first token sees `pre`, every later one the newline that ended
    its predecessor. -/
def toksEvs (pre : Bytes) : List XTok → List XEv
  | [] => []
  | t :: r => tokEvs pre t ++ toksEvs nlB r

theorem xlex_toks (ts : List XTok) (acc : Bytes) (out : List XEv) (h : ts.all tokGood = true) (hne : ts ≠ []) :
    xlexLoop (.text acc) out (spellXToks ts) = (.text nlB.reverse, (toksEvs acc.reverse ts).reverse ++ out) := by
  induction ts generalizing acc out with
  | nil => exact absurd rfl hne
  | cons t r ih =>
    simp only [List.all_cons, Bool.and_eq_true] at h
    have hs : spellXToks (t :: r) = t.spell ++ spellXToks r := by simp [spellXToks]
    rw [hs, xlexLoop_append_eq _ (xlex_tok t acc out h.1)]
    cases r with
    | nil => simp [spellXToks, xlexLoop, toksEvs]
    | cons t2 r2 =>
      rw [ih _ _ h.2 (by simp)]
      simp [toksEvs]

theorem lexXml_spell (ts : List XTok) (h : ts.all tokGood = true) (hne : ts ≠ []) :
    lexXml (spellXToks ts) = some (toksEvs [] ts ++ [.text nlB]) := by
  unfold lexXml
  rw [xlex_toks ts [] [] h hne]
  simp [xflush, nlB]

end Comrak
