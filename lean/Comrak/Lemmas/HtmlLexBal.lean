/-
`balancedBytesCore` is the byte-level oracle `balancedBytes` without its two bookkeeping clauses (`<thead>` /
`<tbody>` at most once and directly under `<table>`; the footnote section at most once).  The full oracle implies
the core (`balancedBytes_imp_core`: step by step, the flags forgotten); the core accepts the spelling of every token
list that is `balanced`, `allowedTok` and `voidOk` (`balancedBytesCore_spell`), and every token the renderer writes
is `voidOk` (`renderToks_void`).
-/
import Comrak.Lemmas.HtmlLex
import Comrak.Lemmas.HtmlSafeTree
import Comrak.Lemmas.HtmlTagNames
import Comrak.Lemmas.HtmlTagStack
namespace Comrak
open Bytes

def balStepCore (stack : List Bytes) : LTok → Except BalErr (List Bytes)
  | .text _ => .ok stack
  | .cmt _ => .ok stack
  | .vd n _ => if voidNames.contains n then .ok stack else .error (.selfClosedNonVoid n)
  | .op n _ => if voidNames.contains n then .error (.voidNotSelfClosed n) else .ok (n :: stack)
  | .cl n =>
    match stack with
    | [] => .error (.closeEmpty n)
    | top :: rest => if top == n then .ok rest else .error (.closeMismatch top n)

def balLoopCore : List Bytes → List LTok → Except BalErr Unit
  | [], [] => .ok ()
  | top :: _, [] => .error (.leftOpen top)
  | st, t :: ts =>
    match balStepCore st t with
    | .ok st' => balLoopCore st' ts
    | .error e => .error e

def balancedBytesCore (bs : Bytes) : Except BalErr Unit :=
  match lexHtml bs with
  | none => .error .unlexable
  | some ts => balLoopCore [] ts

theorem toOption_eq_some {ε α : Type} {e : Except ε α} {a : α} : e.toOption = some a ↔ e = .ok a := by
  cases e <;> simp [Except.toOption]

theorem balStep_op (St : List Open) (fn : Nat) (n : Bytes) (as : List (Bytes × Option Bytes)) :
    (balStep St fn (.op n as)).toOption =
      if voidNames.contains n then none
      else if (if isFootnoteSection n as then fn + 1 else fn) > 1 then none
      else (stepO St (.op n)).map (·, if isFootnoteSection n as then fn + 1 else fn) := by
  simp only [balStep, stepO, ← isTS.eq_1]
  -- both sides are the same tree of `if`s: push `toOption` and `Option.map` to the leaves
  cases St <;> simp only [apply_ite Except.toOption, apply_ite (Option.map _)] <;> rfl

theorem balStep_ok_core {st st' : List Open} {fn fn' : Nat} {t : LTok} (h : balStep st fn t = .ok (st', fn')) :
    balStepCore (st.map Open.name) t = .ok (st'.map Open.name) := by
  cases t with
  | text v | cmt v => cases h; rfl
  | vd n as =>
    simp only [balStep] at h
    split at h
    · rename_i hv
      cases h
      simp only [balStepCore, hv, if_true]
    · cases h
  | op n as =>
    have hs := toOption_eq_some.mpr h
    rw [balStep_op] at hs
    by_cases hv : voidNames.contains n = true
    · rw [if_pos hv] at hs; cases hs
    · by_cases hf : (if isFootnoteSection n as then fn + 1 else fn) > 1
      · rw [if_neg hv, if_pos hf] at hs; cases hs
      · rw [if_neg hv, if_neg hf] at hs
        obtain ⟨S', hS', e⟩ := Option.map_eq_some_iff.mp hs
        cases e
        -- the flags forgotten, `stepO` pushes the name
        have := run_of_runO (evs := [.op n]) (show runO st [.op n] = some st' by rw [runO_cons, hS']; rfl)
        simp only [run_op, run_nil, Option.some.injEq] at this
        simp only [balStepCore, hv, Bool.false_eq_true, if_false, this]
  | cl n =>
    simp only [balStep] at h
    cases st with
    | nil => cases h
    | cons top rest =>
      simp only at h
      split at h
      · rename_i ht
        cases h
        simp [balStepCore, ht]
      · cases h

theorem balLoop_imp_core (ts : List LTok) (S : List Open) (fn : Nat) (h : balLoop S fn ts = .ok ()) :
    balLoopCore (S.map Open.name) ts = .ok () := by
  induction ts generalizing S fn with
  | nil =>
    cases S with
    | nil => rfl
    | cons a r => simp [balLoop] at h
  | cons t r ih =>
    simp only [balLoop] at h
    cases hs : balStep S fn t with
    | error e => rw [hs] at h; simp at h
    | ok p =>
      rw [hs] at h
      simp only [balLoopCore, balStep_ok_core hs]
      exact ih p.1 p.2 h

theorem balancedBytes_imp_core (bs : Bytes) (h : balancedBytes bs = .ok ()) : balancedBytesCore bs = .ok () := by
  unfold balancedBytes at h
  unfold balancedBytesCore
  cases hl : lexHtml bs with
  | none => rw [hl] at h; simp at h
  | some ts =>
    rw [hl] at h
    exact balLoop_imp_core ts [] 0 h

def isVoid (n : Bytes) : Bool := voidNames.contains n

def voidOk : Tok → Bool
  | .op n _ => !isVoid n
  | .vd n _ => isVoid n
  | _ => true

theorem headingName_not_void (level : Nat) : isVoid (headingName level) = false := by
  apply Bool.eq_false_iff.mpr
  intro h
  have h2 : ofNatDec level = [0x72] := by
    simpa [isVoid, voidNames, headingName, S.t_h, S.t_br, S.t_hr, S.t_img, S.t_input] using h
  have := ofNatDec_digits level 0x72 (by rw [h2]; simp)
  exact absurd this (by decide)

theorem voidOk_eq : voidOk = namesOk (fun n => !isVoid n) isVoid := by
  funext t; cases t <;> rfl

theorem names_void : NamesOk (fun n => !isVoid n) isVoid :=
  ⟨by decide, fun level => by simp only [headingName_not_void, Bool.not_false], by decide⟩

theorem enter_void (o : HtmlOpts) (nt : NormTable) (cx : Ctx) (v : NodeValue) (sp : Sp) (cs : Forest) (st : St) :
    (enter o nt cx v sp cs st).1.all voidOk = true := by
  rw [voidOk_eq]
  exact enter_namesOk names_void o nt cx v sp cs st (fun _ => by decide) (fun _ => by decide)

theorem exit_void (o : HtmlOpts) (cx : Ctx) (v : NodeValue) (cs : Forest) (st : St) :
    (exit o cx v cs st).1.all voidOk = true := by
  rw [voidOk_eq]
  exact exit_namesOk names_void o cx v cs st

theorem renderF_void (o : HtmlOpts) (nt : NormTable) :
    ∀ (f : Forest) (parent grand prev : Option NodeValue) (idx : Nat) (st : St),
      (renderF o nt parent grand prev idx f st).1.all voidOk = true :=
  renderF_all_of_nodes (enter_void o nt) (exit_void o)

theorem renderToks_void (o : HtmlOpts) (nt : NormTable) (t : Tree) : (renderToks o nt t).all voidOk = true :=
  renderToks_all_of_nodes (enter_void o nt) (exit_void o) rfl t

theorem balLoopCore_textL (s : List Bytes) (pre : Bytes) (r : List LTok) :
    balLoopCore s (textL pre ++ r) = balLoopCore s r := by
  unfold textL
  split
  · rfl
  · simp [balLoopCore, balStepCore]

theorem balLoopCore_of_run (ts : List Tok) (s : List Bytes) (pre : Bytes) (hv : ts.all voidOk = true)
    (h : run s (events ts) = some []) : balLoopCore s (toLAux pre ts) = .ok () := by
  induction ts generalizing s pre with
  | nil =>
    have : s = [] := by simpa using h
    subst this
    rw [toLAux, ← List.append_nil (textL pre), balLoopCore_textL]
    rfl
  | cons t r ih =>
    simp only [List.all_cons, Bool.and_eq_true] at hv
    rw [events_cons] at h
    cases t
    case txt | lit | raw => exact ih _ _ hv.2 h
    case cmt =>
      simp only [toLAux, balLoopCore_textL, balLoopCore, balStepCore]
      exact ih _ _ hv.2 h
    case vd n as =>
      have h1 : voidNames.contains n = true := hv.1
      simp only [toLAux, balLoopCore_textL, balLoopCore, balStepCore, h1, if_true]
      exact ih _ _ hv.2 h
    case op n as =>
      have h1 : voidNames.contains n = false := (Bool.not_eq_true' _).mp hv.1
      simp only [toLAux, balLoopCore_textL, balLoopCore, balStepCore, h1, Bool.false_eq_true, if_false]
      exact ih _ _ hv.2 h
    case cl n =>
      cases s with
      | nil => cases h
      | cons top st =>
        simp only [Tok.events, List.singleton_append, run] at h
        by_cases ht : top = n
        · subst ht
          simp only [toLAux, balLoopCore_textL, balLoopCore, balStepCore, beq_self_eq_true, if_true]
          exact ih _ _ hv.2 (by simpa using h)
        · simp [ht] at h

theorem balancedBytesCore_spell (ts : List Tok) (ha : ts.all allowedTok = true) (hv : ts.all voidOk = true)
    (hb : balanced ts = true) : balancedBytesCore (spell ts) = .ok () := by
  unfold balancedBytesCore
  rw [lex_spell ts ha]
  unfold balanced at hb
  exact balLoopCore_of_run ts [] [] hv (by simpa using hb)

end Comrak
