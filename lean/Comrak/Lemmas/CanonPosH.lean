/-
Positions of canonical documents, layer H: whole documents.
`positions_doc`: when no written line contains a line-end byte (`cleanG d.glines`) and the local
facts `Doc.ph` hold (both follow from `Doc.ok`), the positioned tree `d.toTreeP` passes the C11 and
C12 oracles on `write d`: `Doc.posOk d = true`.
-/
import Comrak.Lemmas.CanonPosG
namespace Comrak.Canon
open Comrak Bytes

/-- The local facts for a whole document: those of its blocks and footnote bodies, and the writer's
    order of the footnote definitions names every definition (all by `Doc.ok`). -/
def Doc.ph (d : Doc) : Bool :=
  d.blocks.ph && d.notes.all Note.ph && d.noteOrder.all (fun j => decide (j < d.notes.length)) &&
  (List.range d.notes.length).all (fun i => d.noteOrder.contains i)

theorem splitNl_line (g rest : Bytes) (h : nlFree g = true) : splitNl (g ++ 0x0A :: rest) = g :: splitNl rest := by
  induction g with
  | nil => exact splitNl_nl rest
  | cons b g ih =>
    simp only [nlFree, List.all_cons, Bool.and_eq_true, bne_iff_ne, ne_eq] at h
    rw [List.cons_append, splitNl_other b _ h.1, ih h.2]
    rfl

theorem cleanB_nlFree (g : Bytes) (h : cleanB g = true) : nlFree g = true := by
  simp only [cleanB, nlFree, List.all_eq_true, Bool.and_eq_true, bne_iff_ne, ne_eq] at h ⊢
  exact fun b hb => (h b hb).1

theorem splitNl_joinLines : ∀ (G : List Bytes), cleanG G = true → splitNl (joinLines G) = G ++ [[]]
  | [], _ => by simp [joinLines, splitNl]
  | g :: G, h => by
    simp only [cleanG, List.all_cons, Bool.and_eq_true] at h
    rw [joinLines_cons, splitNl_line g _ (cleanB_nlFree g h.1), splitNl_joinLines G h.2]
    rfl

theorem end_in_doc (G : List Bytes) (L : Nat) (x : Bytes) (hL : 1 ≤ L) (h : nth G (L - 1) = x) (hx : x ≠ []) :
    posLe L x.length G.length (G.getLastD []).length = true := by
  have hlt : L - 1 < G.length := nth_ne_lt G _ (by rw [h]; exact hx)
  by_cases he : L = G.length
  · rw [getLastD_nth, ← he, h]
    exact posLe_refl _ _
  · exact posLe_of_line_lt (by omega)

theorem filterMap_valid (notes : List Note) : ∀ (order : List Nat), order.all (fun j => decide (j < notes.length)) = true →
    order.filterMap (fun i => notes[i]?) = order.map (fun i => notes.getD i ⟨[], 0, .nil⟩)
  | [], _ => rfl
  | i :: r, h => by
    simp only [List.all_cons, Bool.and_eq_true, decide_eq_true_eq] at h
    simp only [List.filterMap_cons, List.getElem?_eq_getElem h.1, List.map_cons, filterMap_valid notes r h.2,
      List.getD_eq_getElem?_getD, Option.getD_some]

theorem gOff_if (g : List Bytes) (n X : Nat) (h : g.length = n) : (if n = 0 then X else X + n + 1) = X + gOff g := by
  subst h
  cases g with
  | nil => simp [gOff]
  | cons a b => simp [gOff]; omega

theorem gOff_if2 (g : List Bytes) (n : Nat) (h : g.length = n) : (if n = 0 then 1 else n + 2) = gOff g + 1 := by
  subst h
  cases g with
  | nil => simp [gOff]
  | cons a b => simp [gOff]

def Doc.lead (d : Doc) : List Bytes := ((d.useDefs).filter (fun x => x.before)).map RefDef.line
def Doc.trail (d : Doc) : List Bytes := ((d.useDefs).filter (fun x => !x.before) ++ d.shadow).map RefDef.line

theorem Doc.glines_eq (d : Doc) :
    d.glines = joinGroups (d.lead :: d.blocks.lines false :: d.trail :: d.writtenNotes.map fun n => [n.line]) := rfl

theorem glines_blocks (d : Doc) (k : Nat) (hk : k < (d.blocks.lines false).length) :
    nth d.glines (gOff d.lead + k) = nth (d.blocks.lines false) k := by
  rw [d.glines_eq, joinGroups_tail, joinGroups_head _ _ k hk]

theorem glines_notes (d : Doc) (k : Nat) :
    nth d.glines (gOff d.lead + gOff (d.blocks.lines false) + gOff d.trail + k) =
      nth (joinGroups (d.writtenNotes.map fun n => [n.line])) k := by
  rw [d.glines_eq, Nat.add_assoc, Nat.add_assoc, joinGroups_tail, joinGroups_tail, joinGroups_tail]

def docSpan (G : List Bytes) : Sp :=
  if G.length = 0 then {} else { sl := 1, sc := 1, el := G.length, ec := (G.getLastD []).length }

theorem docSpan_ne (G : List Bytes) (h : G.length ≠ 0) :
    docSpan G = { sl := 1, sc := 1, el := G.length, ec := (G.getLastD []).length } := by
  simp only [docSpan, h, if_false]

theorem valid_doc (G : List Bytes) (h : G.length ≠ 0) : Valid G (docSpan G) := by
  rw [docSpan_ne G h]
  refine ⟨Nat.le_refl _, Nat.pos_of_ne_zero h, Nat.le_refl _, Nat.le_refl _, by simp, ?_, ?_⟩
  · simp only [lenAt, ← getLastD_nth]
    omega
  · dsimp only
    omega

theorem Doc.toTreeP_eq (d : Doc) (h1 : cleanG d.glines = true) :
    d.toTreeP = .node .document (docSpan d.glines)
      (d.blocks.toForestThenP
        (notesForestP d.noteOrder (gOff d.lead + 1 + gOff (d.blocks.lines false) + gOff d.trail) d.writtenNotes.length 0 d.notes)
        (gOff d.lead + 1)) := by
  have hsplit : splitNl d.write = d.glines ++ [[]] := splitNl_joinLines d.glines h1
  have e2 := gOff_if2 d.lead ((d.useDefs).filter (fun x => x.before)).length (by simp [Doc.lead])
  have e3 := fun X => gOff_if (d.blocks.lines false) (d.blocks.lines false).length X rfl
  have e4 := fun X => gOff_if d.trail (((d.useDefs).filter (fun x => !x.before)).length + d.shadow.length) X (by simp [Doc.trail])
  simp only [Doc.toTreeP, e2, e3, e4, hsplit, List.length_append, List.length_singleton, Nat.add_sub_cancel,
    List.dropLast_concat]
  rfl

/-- Note number `k` is written as definition number `idxOf k` of the writer's order. -/
theorem written_note (d : Doc) (hvalid : d.noteOrder.all (fun j => decide (j < d.notes.length)) = true)
    (hperm : (List.range d.notes.length).all (fun i => d.noteOrder.contains i) = true) (k : Nat) (hk : k < d.notes.length) :
    d.noteOrder.idxOf k < d.writtenNotes.length ∧
      d.writtenNotes.getD (d.noteOrder.idxOf k) ⟨[], 0, .nil⟩ = d.notes.getD k ⟨[], 0, .nil⟩ := by
  have hwn : d.writtenNotes = d.noteOrder.map (fun i => d.notes.getD i ⟨[], 0, .nil⟩) ++ d.unused := by
    simp only [Doc.writtenNotes, filterMap_valid d.notes d.noteOrder hvalid]
  have hmem : k ∈ d.noteOrder := by
    have := List.all_eq_true.mp hperm k (List.mem_range.mpr hk)
    simpa using this
  have hj : d.noteOrder.idxOf k < d.noteOrder.length := List.idxOf_lt_length_of_mem hmem
  refine ⟨by rw [hwn]; simp; omega, ?_⟩
  rw [hwn, List.getD_eq_getElem?_getD, List.getElem?_append_left (by simpa using hj), List.getElem?_map,
    List.getElem?_eq_getElem hj, List.getElem_idxOf hj]
  rfl

/-- Definition number `j` of `W` written ones, when the definitions stand on every other line from line `o + 1` on. -/
theorem note_at (G : List Bytes) (hG : cleanG G = true) (n : Note) (hph : n.ph = true) (o j W : Nat)
    (hline : nth G (o + 2 * j) = n.line)
    (hnext : j + 1 ≠ W → nth G (o + (2 * j + 1)) = [] ∧ nth G (o + 2 * (j + 1)) ≠ []) :
    GoodT G (some (docSpan G)) (n.toTreeP (o + 1 + 2 * j) (j + 1 == W)) := by
  have hline' : nth G (o + 1 + 2 * j - 1) = n.line := by
    rw [show o + 1 + 2 * j - 1 = o + 2 * j from by omega]; exact hline
  have hD : G.length ≠ 0 := by
    have := nth_ne_lt G _ (by rw [hline]; exact note_line_ne n)
    omega
  rw [docSpan_ne _ hD]
  refine note_good G hG _ _ _ _ hph (Nat.le_trans (Nat.le_add_left 1 o) (Nat.le_add_right _ _)) hline' (by simp [posLe]; omega) (fun _ => ?_) (fun hl => ?_)
  · exact end_in_doc G _ _ (Nat.le_trans (Nat.le_add_left 1 o) (Nat.le_add_right _ _)) hline' (note_line_ne _)
  · obtain ⟨e1, e2⟩ := hnext (by simpa using hl)
    have hltG := nth_ne_lt G _ e2
    exact ⟨by rw [show o + 1 + 2 * j = o + (2 * j + 1) from by omega]; exact e1, by omega, posLe_of_line_lt (by simp only; omega)⟩

theorem doc_note_good (d : Doc) (h1 : cleanG d.glines = true) (hnph : d.notes.all Note.ph = true)
    (hvalid : d.noteOrder.all (fun j => decide (j < d.notes.length)) = true)
    (hperm : (List.range d.notes.length).all (fun i => d.noteOrder.contains i) = true) (k : Nat) (hk : k < d.notes.length) :
    GoodT d.glines (some (docSpan d.glines))
      ((d.notes.getD k ⟨[], 0, .nil⟩).toTreeP
        (gOff d.lead + 1 + gOff (d.blocks.lines false) + gOff d.trail + 2 * d.noteOrder.idxOf (0 + k))
        (d.noteOrder.idxOf (0 + k) + 1 == d.writtenNotes.length)) := by
  rw [Nat.zero_add]
  obtain ⟨hjw, hget⟩ := written_note d hvalid hperm k hk
  obtain ⟨_, hN2, hN3⟩ := notes_lines d.writtenNotes
  have hnp : (d.notes.getD k ⟨[], 0, .nil⟩).ph = true :=
    List.all_eq_true.mp hnph (d.notes.getD k ⟨[], 0, .nil⟩) (by
      rw [List.getD_eq_getElem?_getD, List.getElem?_eq_getElem hk]; simp)
  rw [show gOff d.lead + 1 + gOff (d.blocks.lines false) + gOff d.trail =
      gOff d.lead + gOff (d.blocks.lines false) + gOff d.trail + 1 from by omega]
  refine note_at d.glines h1 _ hnp _ _ _ (by rw [glines_notes, hN2 _ hjw, hget]) (fun hne => ?_)
  have hlt : d.noteOrder.idxOf k + 1 < d.writtenNotes.length := by omega
  exact ⟨by rw [glines_notes]; exact hN3 _ hlt, by rw [glines_notes, hN2 _ hlt]; exact note_line_ne _⟩

theorem doc_blocks_good (d : Doc) (h1 : cleanG d.glines = true) (hbph : d.blocks.ph = true) (hD : d.glines.length ≠ 0) :
    GoodF d.glines (some (docSpan d.glines)) none (d.blocks.toForestP false (gOff d.lead + 1) 1 1) := by
  rw [docSpan_ne _ hD]
  refine blks_good d.glines h1 d.blocks false (gOff d.lead + 1) 1 1 _ none ?_ hbph (Nat.le_add_left 1 _) (Nat.le_refl _) (Nat.le_refl _)
    (fun h => absurd rfl h) (by simp [posLe]; omega) (fun hq => ?_) (fun Q h => by cases h)
  · exact emb_of_nth _ _ (Nat.le_add_left 1 _) (fun k hk => by
      rw [Nat.add_sub_cancel]; exact glines_blocks d k hk)
  · have hl := Blks.last_ne_nil d.blocks false hq hbph
    have hpos := List.length_pos_iff.mpr (Blks.lines_ne_nil d.blocks false hq hbph)
    rw [endOf_same]
    have := glines_blocks d ((d.blocks.lines false).length - 1) (Nat.sub_lt hpos Nat.one_pos)
    rw [← getLastD_nth] at this
    have e : gOff d.lead + 1 + (d.blocks.lines false).length - 1 - 1 = gOff d.lead + ((d.blocks.lines false).length - 1) := by omega
    have := end_in_doc d.glines (gOff d.lead + 1 + (d.blocks.lines false).length - 1) _ (by omega) (by rw [e]; exact this) hl
    simpa using this

theorem doc_empty (d : Doc) (hbph : d.blocks.ph = true)
    (hvalid : d.noteOrder.all (fun j => decide (j < d.notes.length)) = true)
    (hperm : (List.range d.notes.length).all (fun i => d.noteOrder.contains i) = true) (hG0 : d.glines = []) :
    d.blocks = .nil ∧ d.notes = [] := by
  constructor
  · cases hq : d.blocks.isNil
    · have hl := Blks.last_ne_nil d.blocks false hq hbph
      have hpos := List.length_pos_iff.mpr (Blks.lines_ne_nil d.blocks false hq hbph)
      have := glines_blocks d ((d.blocks.lines false).length - 1) (Nat.sub_lt hpos Nat.one_pos)
      rw [hG0, ← getLastD_nth] at this
      exact absurd this.symm hl
    · cases hb : d.blocks <;> simp [hb, Blks.isNil] at hq ⊢
  · cases hq : d.notes with
    | nil => rfl
    | cons n ns =>
      exfalso
      obtain ⟨hjw, _⟩ := written_note d hvalid hperm 0 (by rw [hq]; simp)
      obtain ⟨_, hN2, _⟩ := notes_lines d.writtenNotes
      have := glines_notes d (2 * d.noteOrder.idxOf 0)
      rw [hG0, hN2 _ hjw] at this
      exact absurd this.symm (note_line_ne _)

theorem positions_doc (d : Doc) (h1 : cleanG d.glines = true) (h2 : d.ph = true) : d.posOk = true := by
  simp only [Doc.ph, Bool.and_eq_true] at h2
  obtain ⟨⟨⟨hbph, hnph⟩, hvalid⟩, hperm⟩ := h2
  have hposOk : d.posOk = ((claimCheckT (lineEnts (joinLines d.glines)) none d.toTreeP).isNone &&
      (sliceCheckT (lineEnts (joinLines d.glines)) (joinLines d.glines) d.toTreeP).isNone) := rfl
  rw [hposOk, d.toTreeP_eq h1]
  by_cases hD : d.glines.length = 0
  · obtain ⟨hbn, hn0⟩ := doc_empty d hbph hvalid hperm (List.eq_nil_of_length_eq_zero hD)
    have hDz : docSpan d.glines = {} := by simp only [docSpan, hD, if_true]
    rw [hbn, hn0, hDz]
    simp [Blks.toForestThenP, notesForestP, claimCheckT, claimCheckF, sliceCheckT, sliceCheckF, NodeValue.kind, Kind.spReliable,
      sliceLT, spOffsets, lineAt]
  · obtain ⟨n1, n2⟩ := notes_good d.glines (docSpan d.glines) d.noteOrder _ d.writtenNotes.length d.notes 0
      (fun k hk => doc_note_good d h1 hnph hvalid hperm k hk)
    obtain ⟨b1, b2⟩ := doc_blocks_good d h1 hbph hD
    rw [toForestThenP_eq]
    have hroot := claim_node_root (lineEnts (joinLines d.glines)) .document (docSpan d.glines) _ rfl
      (by rw [docSpan_ne _ hD]; simp) (range_of_valid d.glines h1 _ (valid_doc d.glines hD)) (claimF_append _ _ none b1 n1)
    have hsl := slice_node (lineEnts (joinLines d.glines)) (joinLines d.glines) .document (docSpan d.glines) _
      (fun s _ => ⟨rfl, rfl⟩) (sliceF_append _ _ b2 n2)
    simp [hroot, hsl]

end Comrak.Canon
