/-
Positions of canonical documents, layer F: blocks.  Every block whose lines stand in the source
(`Emb`) passes the checks: the kinds without block children, tables (rows and cells lie on one line
each), block quotes, lists and sequences of blocks, by structural induction.
-/
import Comrak.Lemmas.CanonPosE
import Comrak.Lemmas.CanonPos
namespace Comrak.Canon
open Comrak Bytes

theorem rep_length (n : Nat) (c : UInt8) : (rep n c).length = n := by simp [rep]

theorem nth_append_left (xs ys : List Bytes) (k : Nat) (h : k < xs.length) : nth (xs ++ ys) k = nth xs k := by
  rw [nth_eq, nth_eq, List.getElem?_append_left h]

theorem nth_zero_ne (ls : List Bytes) (h : allNonempty ls = true) (hne : ls ≠ []) : nth ls 0 ≠ [] := by
  cases ls with
  | nil => exact absurd rfl hne
  | cons x t =>
    exact ((allNonempty_cons x t).mp h).1

section blocks
variable (G : List Bytes)

local notation "LT" => lineEnts (joinLines G)
local notation "SRC" => joinLines G

theorem lines_node (hG : cleanG G = true) (v : NodeValue) (kids : Forest) (ls : List Bytes) (l c : Nat) (A : Sp)
    (hE : Emb G c l c ls) (hf : nth ls 0 ≠ []) (hl : ls.getLastD [] ≠ [])
    (hv : v.kind.spReliable = true)
    (hn1 : posLe A.sl A.sc l c = true) (hn2 : posLe (endOf l c c ls).1 (endOf l c c ls).2 A.el A.ec = true)
    (hs : ∀ s, (ls.length = 1 → s = nth ls 0) → (2 ≤ ls.length → ∃ mid, s = nth ls 0 ++ 0x0A :: mid ++ ls.getLastD []) →
      sliceFail v kids s = none)
    (hk : GoodF G (some (spanLines l c ls)) none kids) :
    GoodT G (some A) (.node v (spanLines l c ls) kids) := by
  have hnest : spNested A (spanLines l c ls) = true := by
    simp only [endOf, ite_self] at hn2
    exact spNested_of hn1 hn2
  have hlen := List.length_pos_iff.mpr (ne_nil_of_last hl)
  have hsp : Valid G (spanLines l c ls) ∧ (spanLines l c ls).ec = lenAt G (spanLines l c ls).el ∧
      ∃ s, sliceLT LT SRC (spanLines l c ls) = some s ∧ sliceFail v kids s = none := by
    by_cases h1 : ls.length = 1
    · obtain ⟨x, rfl⟩ := List.length_eq_one_iff.mp h1
      obtain ⟨hv1, he1, hs1⟩ := span_single G hG x l c c hE hf
      exact ⟨hv1, he1, x, hs1, hs _ (fun _ => rfl) (fun h2 => absurd h2 (Nat.not_succ_le_self 1))⟩
    · obtain ⟨hv1, he1, mid, hs1⟩ := span_multi G hG ls l c hE (Nat.lt_of_le_of_ne hlen (Ne.symm h1)) hf hl
      exact ⟨hv1, he1, _, hs1, hs _ (fun h3 => absurd h3 h1) (fun _ => ⟨mid, rfl⟩)⟩
  obtain ⟨hv1, he1, s, hs1, hs2⟩ := hsp
  exact goodT_node G hG v _ A kids hv hv1 hnest (fun s' h => by
    rw [hs1] at h
    cases h
    exact ⟨hs2, atLineEnd_of G hG v _ hv1.l1 hv1.l2 hv1.l3 (Nat.ne_of_gt hv1.c1) he1⟩) hk

def BlkGood (b : Blk) : Prop :=
  ∀ (l c0 c1 : Nat) (A : Sp), Emb G c0 l c1 b.lines → b.ph = true → 1 ≤ c0 → 1 ≤ c1 → (b.isPara = false → c1 = c0) →
    posLe A.sl A.sc l c1 = true → posLe (endOf l c0 c1 b.lines).1 (endOf l c0 c1 b.lines).2 A.el A.ec = true →
    GoodT G (some A) (b.toTreeP l c0 c1)

/-- A block other than a paragraph whose node claims the span of its lines. -/
theorem lines_blk (hG : cleanG G = true) (b : Blk) (v : NodeValue) (kids : Nat → Nat → Forest) (hb : b.isPara = false)
    (ht : ∀ l c, b.toTreeP l c c = .node v (spanLines l c b.lines) (kids l c)) (hv : v.kind.spReliable = true)
    (h : ∀ l c, Emb G c l c b.lines → b.ph = true → 1 ≤ c → nth b.lines 0 ≠ [] ∧
      (∀ s, (b.lines.length = 1 → s = nth b.lines 0) →
        (2 ≤ b.lines.length → ∃ mid, s = nth b.lines 0 ++ 0x0A :: mid ++ b.lines.getLastD []) → sliceFail v (kids l c) s = none) ∧
      GoodF G (some (spanLines l c b.lines)) none (kids l c)) :
    BlkGood G b := fun l c0 c1 A hE hph _ h1c hc hn1 hn2 => by
  have e := hc hb
  subst e
  obtain ⟨hf, hs, hk⟩ := h l c1 hE hph h1c
  rw [ht]
  exact lines_node G hG v _ _ l c1 A hE hf (Blk.last_ne_nil b hph) hv hn1 hn2 hs hk

theorem clause_hr (ch : UInt8) (n : Nat) (h : (ch == 0x2A || ch == 0x2D || ch == 0x5F) = true) (hn : 3 ≤ n) :
    sliceFail .thematicBreak .nil (rep n ch) = none := by
  obtain ⟨m, rfl⟩ := exists_add_one hn
  have hc : (rep (m + 1) ch).count ch = m + 1 := by simp [rep]
  have ha : allIn (fun x => x == ch || isSpTab x) (rep (m + 1) ch) = true := by
    simp [allIn, rep, List.all_replicate]
  have hh : (rep (m + 1) ch).head? = some ch := rfl
  have hd : decide ((rep (m + 1) ch).count ch ≥ 3) = true := by rw [hc]; simpa using hn
  simp only [sliceFail, firstB, hh, ha, hd, h, Bool.and_self, if_true]

theorem clause_fence (ch : UInt8) (len : Nat) (info lit rest : Bytes) (h : 3 ≤ len) :
    sliceFail (.codeBlock true ch len 0 info lit) .nil (rep len ch ++ rest) = none := by
  have hp : isPrefixB (List.replicate len ch) (rep len ch ++ rest) = true := isPrefixB_self_append _ _
  have hd : decide (len ≥ 3) = true := by simpa using h
  simp only [sliceFail, Bool.not_true, Bool.false_eq_true, if_false, hp, hd, Bool.and_self, if_true]

theorem blk_hr_pos (hG : cleanG G = true) (ch : UInt8) (n : Nat) : BlkGood G (.hr ch n) :=
  lines_blk G hG _ _ (fun _ _ => .nil) rfl (fun _ _ => rfl) rfl fun l c hE hph _ => by
    have hx : rep n ch ≠ [] := Blk.last_ne_nil (.hr ch n) hph
    simp only [Blk.ph, Bool.and_eq_true, decide_eq_true_eq] at hph
    exact ⟨hx, fun s h1 _ => by rw [h1 rfl]; exact clause_hr ch n hph.1 hph.2, rfl, rfl⟩

theorem blk_fence_pos (hG : cleanG G = true) (ch : UInt8) (len : Nat) (info : Bytes) (ls : List Bytes) :
    BlkGood G (.fence ch len info ls) :=
  lines_blk G hG _ _ (fun _ _ => .nil) rfl (fun _ _ => rfl) rfl fun l c hE hph _ => by
    simp only [Blk.ph, decide_eq_true_eq] at hph
    refine ⟨?_, fun s _ h2 => ?_, rfl, rfl⟩
    · obtain ⟨m, rfl⟩ := exists_add_one hph
      simp [Blk.lines, nth, rep_succ]
    · obtain ⟨mid, rfl⟩ := h2 (by simp [Blk.lines])
      rw [show nth (Blk.fence ch len info ls).lines 0 = rep len ch ++ info from rfl, List.append_assoc, List.append_assoc]
      exact clause_fence ch len info _ _ hph

theorem blk_icode_pos (ls : List Bytes) : BlkGood G (.icode ls) := fun l c0 c1 A _ _ _ _ _ _ _ => by
  simp only [Blk.toTreeP]
  exact ⟨claim_skip _ _ _ _ _ (by simp) rfl, slice_node_zero _ _ _ _ rfl⟩

theorem blk_htmlb_pos (hG : cleanG G = true) (ls : List Bytes) : BlkGood G (.htmlb ls) :=
  lines_blk G hG _ _ (fun _ _ => .nil) rfl (fun _ _ => rfl) rfl fun l c hE hph _ => by
    simp only [Blk.ph, Bool.and_eq_true, Bool.not_eq_true', List.isEmpty_eq_false_iff] at hph
    exact ⟨nth_zero_ne ls hph.2 hph.1, fun s _ _ => rfl, rfl, rfl⟩

theorem kids_good (hG : cleanG G = true) (is : Inls) (c0 : Nat) (q : Pos) (S : Sp) (hr : Reg G c0 q is.src) (hph : is.ph = true)
    (h1 : posLe S.sl S.sc q.1 q.2 = true)
    (h2 : is.src ≠ [] → posLe (adv c0 q is.src.dropLast).1 (adv c0 q is.src.dropLast).2 S.el S.ec = true) :
    GoodF G (some S) none (is.toForestP c0 q) :=
  inls_good G hG is c0 q S none hr hph h1 h2 (fun Q h => by cases h)

theorem line_kids (hG : cleanG G = true) (is : Inls) (c0 l : Nat) (P R : Bytes) (S : Sp) (h1 : 1 ≤ l) (h2 : l ≤ G.length)
    (hline : nth G (l - 1) = P ++ is.src ++ R) (hnl : nlFree is.src = true) (hph : is.ph = true)
    (hS1 : posLe S.sl S.sc l (P.length + 1) = true) (hS2 : posLe l (P.length + is.src.length) S.el S.ec = true) :
    GoodF G (some S) none (is.toForestP c0 (l, P.length + 1)) := by
  refine kids_good G hG is c0 _ S (reg_of_line l h1 h2 is.src P R hline hnl) hph hS1 (fun hne => ?_)
  have hp := List.length_pos_iff.mpr hne
  have e : P.length + 1 + (is.src.length - 1) = P.length + is.src.length := by omega
  rw [adv_nlFree c0 _ _ (nlFree_dropLast _ hnl), List.length_dropLast, e]
  exact hS2

theorem blk_heading_pos (hG : cleanG G = true) (lv : Nat) (is : Inls) : BlkGood G (.heading lv is) :=
  lines_blk G hG _ _ (fun l c => is.toForestP c (l, c + lv + 1)) rfl (fun _ _ => rfl) rfl fun l c hE hph _ => by
    simp only [Blk.ph, Bool.and_eq_true, decide_eq_true_eq] at hph
    obtain ⟨⟨hlv, hiph⟩, hnl⟩ := hph
    simp only [Blk.lines] at hE ⊢
    obtain ⟨g1, g2, P, hP, rfl⟩ := hE.1 (by simp)
    refine ⟨by simp [nth], fun s h1 _ => ?_, ?_⟩
    · rw [h1 rfl]
      obtain ⟨m, rfl⟩ := exists_add_one hlv
      rfl
    · have e : (P ++ rep lv 0x23 ++ [0x20]).length + 1 = P.length + 1 + lv + 1 := by simp [rep_length]; omega
      rw [← e]
      exact line_kids G hG is _ l (P ++ rep lv 0x23 ++ [0x20]) [] _ g1 g2 (by simp [hP]) hnl hiph
        (by simp [spanLines, posLe]) (by simp [spanLines, posLe, rep_length]; omega)

theorem para_reg (is : Inls) (l c0 c1 : Nat) (hE : Emb G c0 l c1 (splitNl is.src)) (hall : allNonempty (splitNl is.src) = true) :
    Reg G c0 (l, c1) is.src ∧ is.src ≠ [] := by
  have hne := splitNl_ne_nil is.src
  have hf := nth_zero_ne _ hall hne
  obtain ⟨g1, g2, P, hP, hPl⟩ := emb_get _ l c1 0 hE (List.length_pos_iff.mpr hne) hf
  simp only [Nat.add_zero, if_true] at g1 g2 hP hPl
  have hcur : Cur G (l, c1) := hPl ▸ cur_of_line g1 g2 hP
  refine ⟨reg_of_emb is.src l c1 hcur hE ?_, ?_⟩
  · cases hs : splitNl is.src with
    | nil => rfl
    | cons x t =>
      rw [hs] at hall
      exact ((allNonempty_cons x t).mp hall).2
  · intro e
    rw [e] at hf
    simp [splitNl, nth] at hf

theorem blk_para_pos (hG : cleanG G = true) (is : Inls) : BlkGood G (.para is) := fun l c0 c1 A hE hph h0 h1c _ hn1 hn2 => by
  simp only [Blk.ph, Bool.and_eq_true] at hph
  simp only [Blk.toTreeP, Blk.lines] at hE hn2 ⊢
  obtain ⟨hreg, hsrc⟩ := para_reg G is l c0 c1 hE hph.2
  have hend := adv_dropLast_end c0 is.src l c1 h0 h1c (splitNl_last_of_all _ hph.2)
  exact goodT_node G hG _ _ A _ rfl (valid_of_reg hreg hsrc) (spNested_of hn1 (by simp only [spanOf]; rw [hend]; exact hn2))
    (fun s _ => ⟨rfl, rfl⟩)
    (kids_good G hG is c0 (l, c1) (spanOf c0 (l, c1) is.src) hreg hph.1 (posLe_refl _ _) (fun _ => posLe_refl _ _))

theorem splitNl_head (s : Bytes) (hall : allNonempty (splitNl s) = true) :
    ∃ b t, s.head? = some b ∧ nth (splitNl s) 0 = b :: t := by
  cases s with
  | nil => simp [splitNl, allNonempty] at hall
  | cons b r =>
    by_cases hb : b = 0x0A
    · subst hb
      rw [splitNl_nl] at hall
      simp [allNonempty] at hall
    · rw [splitNl_other b r hb]
      exact ⟨b, _, rfl, rfl⟩

theorem rtrimSp_of_last (s : Bytes) (c : UInt8) (hc : isSpTab c = false) : rtrimSp (s ++ [c]) = s ++ [c] := by
  simp [rtrimSp, List.reverse_append, hc]

theorem clause_setext (lv : Nat) (kids : Forest) (b u : UInt8) (x : Bytes) (hb : isSpTab b = false)
    (hu : u = 0x3D ∨ u = 0x2D) (hx : 0x0A ∈ x) : sliceFail (.heading lv true) kids (b :: (x ++ [u])) = none := by
  have hrt : rtrimSp (b :: (x ++ [u])) = b :: (x ++ [u]) :=
    rtrimSp_of_last (b :: x) u (by rcases hu with rfl | rfl <;> rfl)
  have hL : lastB (b :: (x ++ [u])) = some u := lastB_snoc (b :: x) u
  have hC : (b :: (x ++ [u])).contains 0x0A = true := by simp [hx]
  have hU : (u == 0x3D || u == 0x2D) = true := by rcases hu with rfl | rfl <;> rfl
  simp only [sliceFail, if_true, hrt, hL, firstB, List.head?_cons, hC, hb, hU, Bool.not_false, Bool.true_or, Bool.and_self]

theorem blk_setext_pos (hG : cleanG G = true) (lv n : Nat) (is : Inls) : BlkGood G (.setext lv n is) :=
  lines_blk G hG _ (.heading lv true) (fun l c => is.toForestP c (l, c)) rfl
    (fun l c => by simp [Blk.toTreeP, spanLines, Blk.lines, rep_length])
    rfl fun l c hE hph h1c => by
    simp only [Blk.ph, Bool.and_eq_true, decide_eq_true_eq] at hph
    obtain ⟨⟨⟨hn, hiph⟩, hall⟩, hfs⟩ := hph
    have hplen := List.length_pos_iff.mpr (splitNl_ne_nil is.src)
    obtain ⟨b, t, hb1, hb2⟩ := splitNl_head is.src hall
    have e0 : nth (Blk.setext lv n is).lines 0 = b :: t := by
      simp only [Blk.lines]; rw [nth_append_left _ _ 0 hplen]; exact hb2
    obtain ⟨hE1, _⟩ := emb_append _ _ l c (by simpa [Blk.lines] using hE)
    obtain ⟨hreg, hsrc⟩ := para_reg G is l c c hE1 hall
    refine ⟨by rw [e0]; exact List.cons_ne_nil _ _, fun s _ h2 => ?_, ?_⟩
    · obtain ⟨mid, rfl⟩ := h2 (by simp [Blk.lines]; omega)
      obtain ⟨m, rfl⟩ := exists_add_one hn
      have elast : (Blk.setext lv (m + 1) is).lines.getLastD [] = rep m (if lv = 1 then 0x3D else 0x2D) ++ [if lv = 1 then 0x3D else 0x2D] := by
        simp [Blk.lines, rep_succ']
      have hbs : isSpTab b = false := by simpa [firstNotSp, hb1] using hfs
      rw [e0, elast, List.cons_append, List.cons_append, ← List.append_assoc]
      exact clause_setext lv _ b _ _ hbs (by split <;> simp) (by simp)
    · refine kids_good G hG is c _ _ hreg hiph (by simp [spanLines, posLe]) (fun _ => ?_)
      rw [adv_dropLast_end c is.src l c h1c h1c (splitNl_last_of_all _ hall)]
      refine posLe_of_line_lt ?_
      simp only [endOf, spanLines, Blk.lines, List.length_append, List.length_singleton]
      omega

mutual
theorem erased_good (lt : List LineEnt) (src : Bytes) (anc : Option Sp) : ∀ t : Tree,
    claimCheckT lt anc (eraseT t) = none ∧ sliceCheckT lt src (eraseT t) = none
  | .node v _ cs =>
    ⟨claim_skip _ _ _ _ _ (by simp) (erasedF_good lt src anc none cs).1,
      slice_node_zero _ _ _ _ (erasedF_good lt src anc none cs).2⟩
theorem erasedF_good (lt : List LineEnt) (src : Bytes) (anc prev : Option Sp) : ∀ f : Forest,
    claimCheckF lt anc prev (eraseF f) = none ∧ sliceCheckF lt src (eraseF f) = none
  | .nil => ⟨rfl, rfl⟩
  | .cons t ts =>
    have hsp : (eraseT t).sp = {} := by cases t; rfl
    ⟨claimF_cons_skip _ _ _ _ prev (by rw [hsp]; simp) (erased_good lt src anc t).1 (erasedF_good lt src anc prev ts).1,
      sliceF_cons _ _ _ _ (erased_good lt src anc t).2 (erasedF_good lt src anc prev ts).2⟩
end

theorem inl_zero (anc : Option Sp) : ∀ i : Inl, claimCheckT LT anc i.toTree = none ∧ sliceCheckT LT SRC i.toTree = none :=
  fun i => inl_erase0 i ▸ erased_good LT SRC anc i.toTree

theorem inls_zero (anc prev : Option Sp) (is : Inls) :
    GoodF G anc prev is.toForest :=
  inls_erase0 is ▸ erasedF_good LT SRC anc prev is.toForest

def cellSrc (c : Bytes) : Bytes := [0x20] ++ c ++ [0x20, 0x7C]

theorem rowSrc_eq (cells : List Bytes) : rowSrc cells = [0x7C] ++ cells.flatMap cellSrc := rfl

theorem cell_good (hG : cleanG G = true) (l : Nat) (h1 : 1 ≤ l) (h2 : l ≤ G.length) (A : Sp) (x : Inls) (Pre Rest : Bytes)
    (hx : cellPh x = true) (hline : nth G (l - 1) = Pre ++ ([0x20] ++ x.src ++ [0x20]) ++ Rest)
    (hnest : spNested A { sl := l, sc := Pre.length + 1, el := l, ec := Pre.length + 1 + x.src.length + 1 } = true) :
    GoodT G (some A) (.node .tableCell { sl := l, sc := Pre.length + 1, el := l, ec := Pre.length + 1 + x.src.length + 1 }
      (if x.src.contains 0x7C then x.toForest else x.toForestP 0 (l, Pre.length + 1 + 1))) := by
  simp only [cellPh, Bool.and_eq_true, Bool.not_eq_true'] at hx
  obtain ⟨⟨hxph, hxnl⟩, hpipe⟩ := hx
  have hsl := slice_line G hG l h1 h2 Pre _ Rest hline
    { sl := l, sc := Pre.length + 1, el := l, ec := Pre.length + 1 + x.src.length + 1 } rfl rfl rfl (by simp only [List.length_append, List.length_cons, List.length_nil]; omega)
  have hl := (Nat.sub_add_cancel h1).symm
  refine goodT_node G hG _ _ A _ rfl ?_ hnest (fun s h => ?_) ?_
  · exact valid_of_lines (P := Pre) (W := Pre ++ ([0x20] ++ x.src ++ [0x20])) (R := Rest) hl hl (Nat.le_refl _) (Nat.sub_one_lt_of_le h1 h2)
      (by rw [hline, List.append_assoc]) hline rfl (by simp only [List.length_append, List.length_cons, List.length_nil]; omega) (by simp) (fun _ => by simp)
  · rw [hsl] at h
    cases h
    exact ⟨by simp only [sliceFail, hpipe]; rfl, rfl⟩
  · split
    · exact inls_zero G _ none x
    · have e : (Pre ++ [0x20]).length + 1 = Pre.length + 1 + 1 := by simp
      rw [← e]
      exact line_kids G hG x 0 l (Pre ++ [0x20]) ([0x20] ++ Rest) _ h1 h2 (by rw [hline]; simp) hxnl hxph
        (by simp [posLe]) (by simp [posLe])

theorem cells_good (hG : cleanG G = true) (l : Nat) (h1 : 1 ≤ l) (h2 : l ≤ G.length) (A : Sp) :
    ∀ (cells : List Inls) (Pre : Bytes) (prev : Option Sp), cells.all cellPh = true →
    nth G (l - 1) = Pre ++ (cells.map Inls.src).flatMap cellSrc →
    posLe A.sl A.sc l (Pre.length + 1) = true → A.el = l → Pre.length + ((cells.map Inls.src).flatMap cellSrc).length ≤ A.ec →
    (∀ Q, prev = some Q → posLt Q.el Q.ec l (Pre.length + 1) = true) →
    GoodF G (some A) prev (cellsP l (Pre.length + 1) cells)
  | [] => fun _ _ _ _ _ _ _ _ => ⟨rfl, rfl⟩
  | x :: r => fun Pre prev hph hg hn1 hel hn2 hp => by
    simp only [List.all_cons, Bool.and_eq_true] at hph
    simp only [List.map_cons, List.flatMap_cons, cellSrc, List.length_append, List.length_cons, List.length_nil] at hg hn2
    have hnode := cell_good G hG l h1 h2 A x Pre (0x7C :: ((r.map Inls.src).flatMap cellSrc)) hph.1 (by rw [hg]; simp)
      (spNested_of hn1 (hel ▸ posLe_of_col_le (by simp only; omega)))
    have e : Pre.length + 1 + x.src.length + 3 = (Pre ++ ([0x20] ++ x.src ++ [0x20, 0x7C])).length + 1 := by
      simp only [List.length_append, List.length_cons, List.length_nil]; omega
    have hrest := cells_good hG l h1 h2 A r (Pre ++ ([0x20] ++ x.src ++ [0x20, 0x7C]))
      (some { sl := l, sc := Pre.length + 1, el := l, ec := Pre.length + 1 + x.src.length + 1 }) hph.2
      (by rw [hg]; simp) (posLe_trans hn1 (posLe_of_col_le (by omega))) hel (by omega)
      (fun Q hQ => by
        cases hQ
        exact posLt_of_col_lt (by simp only; omega))
    simp only [cellsP]
    rw [e]
    exact goodF_node G _ _ _ _ _ prev rfl (by simp only; omega) hp hnode hrest

theorem row_good (hG : cleanG G = true) (hd : Bool) (cells : List Inls) (l c : Nat) (A : Sp)
    (hE : Emb G c l c [rowSrc (cells.map Inls.src)]) (hph : cells.all cellPh = true)
    (hn1 : posLe A.sl A.sc l c = true)
    (hn2 : posLe l (c - 1 + (rowSrc (cells.map Inls.src)).length) A.el A.ec = true) :
    GoodT G (some A) (.node (.tableRow hd) (spanLines l c [rowSrc (cells.map Inls.src)]) (cellsP l (c + 1) cells)) := by
  have hx : rowSrc (cells.map Inls.src) ≠ [] := by simp [rowSrc]
  obtain ⟨g1, g2, P, hP, hPl⟩ := hE.1 hx
  refine lines_node G hG _ _ _ l c A hE (by simpa [nth] using hx) (by simpa using hx) rfl hn1
    (by simpa [endOf] using hn2) (fun _ _ _ => rfl) ?_
  have e : c + 1 = (P ++ [0x7C]).length + 1 := by simp only [List.length_append, List.length_cons, List.length_nil]; omega
  rw [e]
  refine cells_good G hG l g1 g2 _ cells (P ++ [0x7C]) none hph (by rw [hP, rowSrc_eq]; simp)
    (by simp [spanLines, posLe]; omega) (by simp [spanLines]) ?_ (fun Q h => by cases h)
  simp only [spanLines, List.getLastD_cons, List.getLastD_nil, rowSrc_eq, List.length_append, List.length_singleton]
  omega

theorem endOf_same (l c : Nat) (ls : List Bytes) : endOf l c c ls = (l + ls.length - 1, c - 1 + (ls.getLastD []).length) := by
  simp only [endOf, ite_self]

/-- A group of lines, then (unless nothing follows) the lines `sep` and a second group: where the second stands, and where
    both end if the whole ends within `A`. -/
theorem seq_lines {G : List Bytes} {c0 : Nat} (xs sep ys : List Bytes) (l c1 : Nat) (A : Sp) (hx : xs ≠ []) (hs : ys = [] → sep = [])
    (hE : Emb G c0 l c1 (xs ++ sep ++ ys))
    (hend : posLe (endOf l c0 c1 (xs ++ sep ++ ys)).1 (endOf l c0 c1 (xs ++ sep ++ ys)).2 A.el A.ec = true) :
    Emb G c0 l c1 xs ∧ Emb G c0 (l + xs.length + sep.length) c0 ys ∧
      posLe (endOf l c0 c1 xs).1 (endOf l c0 c1 xs).2 A.el A.ec = true ∧
      (ys ≠ [] → posLe (endOf (l + xs.length + sep.length) c0 c0 ys).1 (endOf (l + xs.length + sep.length) c0 c0 ys).2 A.el A.ec = true) := by
  have hxl := List.length_pos_iff.mpr hx
  obtain ⟨hE12, hE3⟩ := emb_append _ _ l c1 hE
  obtain ⟨hE1, _⟩ := emb_append _ _ l c1 hE12
  have hne : (xs ++ sep).isEmpty = false := by
    cases xs with
    | nil => exact absurd rfl hx
    | cons x t => rfl
  rw [hne, List.length_append, ← Nat.add_assoc] at hE3
  by_cases hy : ys = []
  · rw [hy, hs hy, List.append_nil, List.append_nil] at hend
    exact ⟨hE1, hE3, hend, fun h => absurd hy h⟩
  · have hyl := List.length_pos_iff.mpr hy
    have hwhole : endOf l c0 c1 (xs ++ sep ++ ys) = endOf (l + xs.length + sep.length) c0 c0 ys := by
      have h2 : ¬ (xs.length + (sep.length + ys.length) ≤ 1) := by omega
      rw [endOf_same]
      simp only [endOf, getLastD_append_ne _ _ hy, List.length_append, Nat.add_assoc, h2, if_false]
    rw [hwhole] at hend
    refine ⟨hE1, hE3, posLe_trans (posLe_of_line_lt ?_) hend, fun _ => hend⟩
    simp only [endOf]
    omega

/-- A group of lines and the rest of a sequence (`nil`: there is no rest), a blank line between them unless `tight`. -/
theorem seq_sep {G : List Bytes} {c0 : Nat} (xs ys : List Bytes) (tight nil : Bool) (l c1 : Nat) (A : Sp) (hx : xs ≠ [])
    (hy : nil = false → ys ≠ []) (hn : nil = true → ys = [])
    (hE : Emb G c0 l c1 (xs ++ (if tight || nil then [] else [[]]) ++ ys))
    (hend : posLe (endOf l c0 c1 (xs ++ (if tight || nil then [] else [[]]) ++ ys)).1
      (endOf l c0 c1 (xs ++ (if tight || nil then [] else [[]]) ++ ys)).2 A.el A.ec = true) :
    Emb G c0 l c1 xs ∧ Emb G c0 (l + xs.length + (if tight then 0 else 1)) c0 ys ∧
      posLe (endOf l c0 c1 xs).1 (endOf l c0 c1 xs).2 A.el A.ec = true ∧
      (nil = false → posLe (endOf (l + xs.length + (if tight then 0 else 1)) c0 c0 ys).1
        (endOf (l + xs.length + (if tight then 0 else 1)) c0 c0 ys).2 A.el A.ec = true) := by
  cases nil
  · rw [Bool.or_false] at hE hend
    obtain ⟨e1, e2, p1, p2⟩ := seq_lines xs _ ys l c1 A hx (fun h => absurd h (hy rfl)) hE hend
    have hs : (if tight then ([] : List Bytes) else [[]]).length = if tight then 0 else 1 := by cases tight <;> rfl
    rw [hs] at e2 p2
    exact ⟨e1, e2, p1, fun _ => p2 (hy rfl)⟩
  · cases hn rfl
    simp only [Bool.or_true, if_true, List.append_nil] at hE hend
    exact ⟨hE, trivial, hend, fun h => by cases h⟩

theorem posLe_to_later_line {a b l c l' c' : Nat} (h : posLe a b l c = true) (hl : l < l') : posLe a b l' c' = true :=
  posLe_trans h (posLe_of_line_lt hl)

theorem rows_good (hG : cleanG G = true) (A : Sp) (c : Nat) : ∀ (rows : List (List Inls)) (l : Nat) (prev : Option Sp),
    Emb G c l c (rows.map fun r => rowSrc (r.map Inls.src)) → (rows.all fun r => r.all cellPh) = true →
    posLe A.sl A.sc l c = true →
    (rows ≠ [] → posLe (endOf l c c (rows.map fun r => rowSrc (r.map Inls.src))).1
      (endOf l c c (rows.map fun r => rowSrc (r.map Inls.src))).2 A.el A.ec = true) →
    (∀ Q, prev = some Q → Q.el < l) →
    GoodF G (some A) prev (rowsP c l rows)
  | [] => fun _ _ _ _ _ _ _ => ⟨rfl, rfl⟩
  | r :: rs => fun l prev hE hph hn1 hend hp => by
    simp only [List.all_cons, Bool.and_eq_true] at hph
    simp only [List.map_cons] at hE hend
    have hend0 := hend (List.cons_ne_nil _ _)
    obtain ⟨_, e2, p1, p2⟩ := seq_lines [rowSrc (r.map Inls.src)] [] _ l c A (List.cons_ne_nil _ _) (fun _ => rfl) hE hend0
    have hrest := rows_good hG A c rs (l + 1) (some (spanLines l c [rowSrc (r.map Inls.src)])) e2 hph.2
      (posLe_to_later_line hn1 (Nat.lt_succ_self l)) (fun h => p2 (fun e => h (List.map_eq_nil_iff.mp e)))
      (fun Q hQ => by cases hQ; simp [spanLines])
    have hrow := row_good G hG false r l c A ⟨hE.1, trivial⟩ hph.1 hn1 (by simpa [endOf_same] using p1)
    have g1 : 1 ≤ l := (hE.1 (by simp [rowSrc])).1
    simp only [rowsP]
    exact goodF_node G _ _ _ _ _ prev rfl (Nat.ne_of_gt g1) (fun Q hQ => posLt_of_line_lt (hp Q hQ)) hrow hrest

theorem blk_table_pos (hG : cleanG G = true) (al : List Align) (h : List Inls) (rows : List (List Inls)) :
    BlkGood G (.table al h rows) :=
  lines_blk G hG _ _ (fun l c => .cons (.node (.tableRow true) (spanLines l c [rowSrc (h.map Inls.src)]) (cellsP l (c + 1) h))
    (rowsP c (l + 2) rows)) rfl (fun _ _ => rfl) rfl fun l c1 hE hph _ => by
  simp only [Blk.ph, Bool.and_eq_true] at hph
  have hx : rowSrc (h.map Inls.src) ≠ [] := by simp [rowSrc]
  refine ⟨by simpa [Blk.lines, nth] using hx, fun _ _ _ => rfl, ?_⟩
  have hE' : Emb G c1 l c1 ([rowSrc (h.map Inls.src), rowSrc (al.map alignSrc)] ++ [] ++ rows.map fun r => rowSrc (r.map Inls.src)) := by
    simpa [Blk.lines] using hE
  have hlen : (Blk.table al h rows).lines.length = rows.length + 2 := by simp [Blk.lines]
  refine goodF_node G _ _ _ _ _ none rfl (Nat.ne_of_gt (hE'.1 hx).1) (fun Q hQ => by cases hQ) ?_ ?_
  · refine row_good G hG true h l c1 _ ⟨hE'.1, trivial⟩ hph.1 (posLe_refl _ _) (posLe_of_line_lt ?_)
    simp only [spanLines, hlen]
    omega
  · obtain ⟨_, e2, _, p2⟩ := seq_lines _ [] _ l c1 (spanLines l c1 (Blk.table al h rows).lines) (List.cons_ne_nil _ _)
      (fun _ => rfl) hE' (by rw [endOf_same]; exact posLe_refl _ _)
    exact rows_good G hG _ c1 rows (l + 2) _ e2 hph.2 (by simp [spanLines, posLe]) (fun h => p2 (by simpa using h))
      (fun Q hQ => by cases hQ; simp [spanLines])

/-- Lines written behind a fixed prefix (an empty line may lose the prefix or part of it). -/
theorem emb_prefix {G : List Bytes} (f : Bytes → Bytes) (pre : Bytes) (hf : ∀ x, x ≠ [] → f x = pre ++ x) {c0 : Nat} :
    ∀ (xs : List Bytes) (l c : Nat), Emb G c0 l c (xs.map f) → Emb G (c0 + pre.length) l (c + pre.length) xs
  | [], _, _, _ => trivial
  | x :: rest, l, c, hE => by
    simp only [List.map_cons] at hE
    refine ⟨fun hx => ?_, emb_prefix f pre hf rest (l + 1) c0 hE.2⟩
    have hfx : f x ≠ [] := by rw [hf x hx]; simp [hx]
    obtain ⟨g1, g2, P, hP, hPl⟩ := hE.1 hfx
    exact ⟨g1, g2, P ++ pre, by rw [hP, hf x hx]; simp, by simp only [List.length_append]; omega⟩

theorem quoteLine_ne (x : Bytes) (hx : x ≠ []) : quoteLine x = [0x3E, 0x20] ++ x := by
  cases x with
  | nil => exact absurd rfl hx
  | cons a b => simp [quoteLine]

theorem emb_item {G : List Bytes} (mk : Bytes) (t : Task) (x : Bytes) (xs : List Bytes) (l c : Nat)
    (hE : Emb G c l c (itemLines mk (t.mark (x :: xs)))) :
    Emb G (c + (mk.length + 1)) l (c + (mk.length + 1) + t.src.length) (x :: xs) := by
  simp only [Task.mark, itemLines] at hE
  refine ⟨fun hx => ?_, ?_⟩
  · obtain ⟨g1, g2, P, hP, hPl⟩ := hE.1 (by simp)
    exact ⟨g1, g2, P ++ mk ++ [0x20] ++ t.src, by rw [hP]; simp, by simp only [List.length_append, List.length_cons, List.length_nil]; omega⟩
  · have := emb_prefix (G := G) (fun l => if l.isEmpty then [] else rep (mk.length + 1) 0x20 ++ l) (rep (mk.length + 1) 0x20)
      (fun y hy => indent_ne _ y hy) xs (l + 1) c hE.2
    simpa [rep_length] using this

theorem itemLines_length (mk : Bytes) (t : Task) (x : Bytes) (xs : List Bytes) :
    (itemLines mk (t.mark (x :: xs))).length = (x :: xs).length := by
  simp [Task.mark, itemLines]

theorem endOf_quote (l c : Nat) (hc : 1 ≤ c) (xs : List Bytes) (hne : xs ≠ []) (hl : xs.getLastD [] ≠ []) :
    endOf l (c + 2) (c + 2) xs = endOf l c c (xs.map quoteLine) := by
  rw [endOf_same, endOf_same, getLastD_map_ne _ [] _ hne, quoteLine_ne _ hl]
  simp; omega

theorem endOf_item (mk : Bytes) (t : Task) (l c : Nat) (hc : 1 ≤ c) (x : Bytes) (xs : List Bytes) (hl : (x :: xs).getLastD [] ≠ []) :
    endOf l (c + (mk.length + 1)) (c + (mk.length + 1) + t.src.length) (x :: xs) =
      endOf l c c (itemLines mk (t.mark (x :: xs))) := by
  cases xs with
  | nil => simp [endOf, Task.mark, itemLines]; omega
  | cons y ys =>
    have hl' : (y :: ys).getLastD [] ≠ [] := by simpa using hl
    rw [endOf_same, itemLines_getLastD, indent_ne _ _ hl']
    simp [endOf, rep_length, itemLines_length]
    omega

/-- The node of a block claims no position (lists, indented code), or it spans the block's lines and is of a kind whose order is checked. -/
theorem toTreeP_sp (b : Blk) (l c0 c1 : Nat) (h0 : 1 ≤ c0) (h1 : 1 ≤ c1) (hph : b.ph = true) :
    (b.toTreeP l c0 c1).sp.sl = 0 ∨ ((b.toTreeP l c0 c1).sp.sl = l ∧ (b.toTreeP l c0 c1).sp.el = l + b.lines.length - 1 ∧
      (b.toTreeP l c0 c1).value.kind.spInOrder = true) := by
  cases b with
  | para is =>
    simp only [Blk.ph, Bool.and_eq_true] at hph
    exact Or.inr ⟨rfl, congrArg Prod.fst (adv_dropLast_end c0 is.src l c1 h0 h1 (splitNl_last_of_all _ hph.2)), rfl⟩
  | setext lv n is => exact Or.inr ⟨rfl, by simp [Blk.toTreeP, Tree.sp, Blk.lines], rfl⟩
  | heading | hr | fence | quote | htmlb | table => exact Or.inr ⟨rfl, rfl, rfl⟩
  | icode | list => exact Or.inl rfl

/-- `prev`: the span of the last claimed sibling before the sequence. -/
def BlksGood (bs : Blks) : Prop :=
  ∀ (tight : Bool) (l c0 c1 : Nat) (A : Sp) (prev : Option Sp), Emb G c0 l c1 (bs.lines tight) → bs.ph = true → 1 ≤ l →
    1 ≤ c0 → 1 ≤ c1 → (c1 ≠ c0 → bs.startsPara = true) → posLe A.sl A.sc l c1 = true →
    (bs.isNil = false → posLe (endOf l c0 c1 (bs.lines tight)).1 (endOf l c0 c1 (bs.lines tight)).2 A.el A.ec = true) →
    (∀ Q, prev = some Q → Q.el < l) →
    GoodF G (some A) prev (bs.toForestP tight l c0 c1)

def ItemsGood (items : Items) : Prop :=
  ∀ (m : Marker) (k l c : Nat) (A : Sp), Emb G c l c (items.lines m k) → items.ph = true → 1 ≤ l → 1 ≤ c →
    posLe A.sl A.sc l c = true →
    (items.isNil = false → posLe (endOf l c c (items.lines m k)).1 (endOf l c c (items.lines m k)).2 A.el A.ec = true) →
    claimCheckF LT (some A) none (items.toForestP m k l c) = none ∧ sliceCheckF LT SRC (items.toForestP m k l c) = none

theorem blk_quote_pos (hG : cleanG G = true) (bs : Blks) (ih : BlksGood G bs) : BlkGood G (.quote bs) :=
  lines_blk G hG _ _ (fun l c => bs.toForestP false l (c + 2) (c + 2)) rfl (fun _ _ => rfl) rfl fun l c1 hE hph h1c => by
    have hne := Blk.lines_ne_nil (.quote bs) hph
    simp only [Blk.ph, Bool.and_eq_true, Bool.not_eq_true'] at hph
    have hine := Blks.lines_ne_nil bs false hph.1 hph.2
    have hil := Blks.last_ne_nil bs false hph.1 hph.2
    obtain ⟨t, ht⟩ : ∃ t, nth (Blk.quote bs).lines 0 = 0x3E :: t := by
      obtain ⟨x, t, hq⟩ := List.exists_cons_of_ne_nil hine
      simp only [Blk.lines, hq, List.map_cons, nth]
      unfold quoteLine
      split <;> simp
    have hf : nth (Blk.quote bs).lines 0 ≠ [] := ht ▸ List.cons_ne_nil _ _
    have hE' : Emb G c1 l c1 ((bs.lines false).map quoteLine) := by simpa [Blk.lines] using hE
    have hEi := emb_prefix (G := G) quoteLine [0x3E, 0x20] quoteLine_ne (bs.lines false) l c1 hE'
    simp only [List.length_cons, List.length_nil] at hEi
    refine ⟨hf, fun s h1 h2 => ?_, ?_⟩
    · by_cases hlen : (Blk.quote bs).lines.length = 1
      · rw [h1 hlen, ht]; simp [sliceFail, firstB]
      · obtain ⟨mid, rfl⟩ := h2 (by have := List.length_pos_iff.mpr hne; omega)
        rw [ht]; simp [sliceFail, firstB]
    · have hl1 : 1 ≤ l := (emb_get _ l c1 0 hE (List.length_pos_iff.mpr hne) hf).1
      refine ih false l (c1 + 2) (c1 + 2) _ none hEi hph.2 hl1 (Nat.le_add_left 1 _) (Nat.le_add_left 1 _) (fun h => absurd rfl h)
        (by simp [spanLines, posLe]) (fun _ => ?_) (fun Q h => by cases h)
      rw [endOf_quote l c1 h1c _ hine hil, endOf_same]
      simp only [spanLines, Blk.lines]
      exact posLe_refl _ _

theorem blk_list_pos (m : Marker) (items : Items) (ih : ItemsGood G items) : BlkGood G (.list m items) :=
  fun l c0 c1 A hE hph _ h1c hc hn1 hn2 => by
    have e := hc rfl
    subst e
    simp only [Blk.ph, Bool.and_eq_true, Bool.not_eq_true'] at hph
    simp only [Blk.toTreeP, Blk.lines] at hE hn2 ⊢
    have hl1 : 1 ≤ l := by
      cases items with
      | nil => cases hph.1
      | cons t bs r =>
        simp only [Items.ph, Bool.and_eq_true, Bool.not_eq_true'] at hph
        obtain ⟨x, xs, hq⟩ := List.exists_cons_of_ne_nil (Blks.lines_ne_nil bs m.tight hph.2.1.1.1 hph.2.1.1.2)
        simp only [Items.lines, hq, Task.mark, itemLines, List.cons_append] at hE
        exact (hE.1 (by simp)).1
    obtain ⟨k1, k2⟩ := ih m m.start l c1 A hE hph.2 hl1 h1c hn1 (fun _ => hn2)
    exact ⟨claim_skip _ _ _ _ _ (by simp) k1, slice_node_zero _ _ _ _ k2⟩

theorem blks_nil_pos : BlksGood G .nil := fun _ _ _ _ _ _ _ _ _ _ _ _ _ _ _ => ⟨rfl, rfl⟩

theorem blks_cons_pos (b : Blk) (r : Blks) (hb : BlkGood G b) (hr : BlksGood G r) : BlksGood G (.cons b r) :=
  fun tight l c0 c1 A prev hE hph hl1 h0 h1c hsp hn1 hend hp => by
    simp only [Blks.ph, Bool.and_eq_true] at hph
    have hbne := Blk.lines_ne_nil b hph.1
    have hbpos := List.length_pos_iff.mpr hbne
    have hbpara : b.isPara = false → c1 = c0 := fun hbp => Decidable.byContradiction fun hne => by
      cases b with
      | para => cases hbp
      | _ => cases hsp hne
    simp only [Blks.lines] at hE hend
    obtain ⟨e1, e2, p1, p2⟩ := seq_sep b.lines (r.lines tight) tight r.isNil l c1 A hbne
      (fun h => Blks.lines_ne_nil r tight h hph.2) (fun h => by cases r <;> first | rfl | cases h) hE (hend rfl)
    obtain ⟨k1, k2⟩ := hb l c0 c1 A e1 hph.1 h0 h1c hbpara hn1 p1
    -- the remaining blocks after any previous sibling `pv`
    have hrest := fun pv => hr tight _ c0 c0 A pv e2 hph.2 (Nat.le_add_right_of_le (Nat.le_add_right_of_le hl1)) h0 h0
      (fun h => absurd rfl h) (posLe_to_later_line hn1 (Nat.lt_of_lt_of_le (Nat.lt_add_of_pos_right hbpos) (Nat.le_add_right _ _))) p2
    simp only [Blks.toForestP]
    rcases toTreeP_sp b l c0 c1 h0 h1c hph.1 with hsl | ⟨s1, s2, s3⟩
    · obtain ⟨k3, k4⟩ := hrest prev (fun Q hQ =>
        Nat.lt_of_lt_of_le (hp Q hQ) (Nat.le_add_right_of_le (Nat.le_add_right _ _)))
      exact ⟨claimF_cons_skip _ _ _ _ prev (by simp [hsl]) k1 k3, sliceF_cons _ _ _ _ k2 k4⟩
    · obtain ⟨k3, k4⟩ := hrest (some (b.toTreeP l c0 c1).sp) (fun Q hQ => by cases hQ; rw [s2]; omega)
      refine ⟨claimF_cons _ _ _ _ prev (by rw [s3, s1]; simp; omega) ?_ k1 k3, sliceF_cons _ _ _ _ k2 k4⟩
      exact fun Q hQ => posLt_of_line_lt (s1.symm ▸ hp Q hQ)

theorem items_nil_pos : ItemsGood G .nil := fun _ _ _ _ _ _ _ _ _ _ _ => ⟨rfl, rfl⟩

theorem items_cons_pos (t : Task) (bs : Blks) (r : Items) (hb : BlksGood G bs) (hr : ItemsGood G r) : ItemsGood G (.cons t bs r) :=
  fun m k l c A hE hph hl1 h1c hn1 hend => by
    simp only [Items.ph, Bool.and_eq_true, Bool.not_eq_true', Bool.or_eq_true] at hph
    obtain ⟨⟨⟨hbn, hbph⟩, htask⟩, hrph⟩ := hph
    have hine := Blks.lines_ne_nil bs m.tight hbn hbph
    have hil := Blks.last_ne_nil bs m.tight hbn hbph
    have hend0 := hend rfl
    obtain ⟨x, xs, hxs⟩ := List.exists_cons_of_ne_nil hine
    have hILlen := itemLines_length (m.src k) t x xs
    simp only [Items.lines, hxs] at hE hend0
    obtain ⟨e1, e2, p1, p2⟩ := seq_sep _ (r.lines m (k + 1)) m.tight r.isNil l c A (itemLines_ne_nil _ _)
      (Items.lines_ne_nil m (k + 1) r) (fun h => by cases r <;> first | rfl | cases h) hE hend0
    rw [hILlen, ← hxs] at e2 p2
    have hitem := hb m.tight l (c + ((m.src k).length + 1)) (c + ((m.src k).length + 1) + t.src.length) A none
      (by rw [hxs]; exact emb_item (m.src k) t x xs l c e1) hbph hl1 (Nat.le_add_right_of_le h1c)
      (Nat.le_add_right_of_le (Nat.le_add_right_of_le h1c))
      -- the first line starts further right only behind a task marker, which stands before a paragraph
      (fun hne => htask.resolve_left fun h => hne (by cases t <;> first | rfl | cases h))
      (posLe_trans hn1 (posLe_of_col_le (Nat.le_add_right_of_le (Nat.le_add_right _ _))))
      (fun _ => by rw [hxs] at hil ⊢; rw [endOf_item (m.src k) t l c h1c x xs hil]; exact p1)
      (fun Q h => by cases h)
    have hrest := hr m (k + 1) _ c A e2 hrph (Nat.le_add_right_of_le (Nat.le_add_right_of_le hl1)) h1c
      (posLe_to_later_line hn1 (by rw [hxs]; simp; omega)) p2
    simp only [Items.toForestP]
    exact ⟨claimF_cons_skip _ _ _ _ none (by simp [Tree.sp]) (claim_skip _ _ _ _ _ (by simp) hitem.1) hrest.1,
      sliceF_cons _ _ _ _ (slice_node_zero _ _ _ _ hitem.2) hrest.2⟩

mutual
theorem blk_good (hG : cleanG G = true) : ∀ b : Blk, BlkGood G b
  | .para is => blk_para_pos G hG is
  | .heading lv is => blk_heading_pos G hG lv is
  | .setext lv n is => blk_setext_pos G hG lv n is
  | .hr ch n => blk_hr_pos G hG ch n
  | .fence ch len info ls => blk_fence_pos G hG ch len info ls
  | .icode ls => blk_icode_pos G ls
  | .quote bs => blk_quote_pos G hG bs (blks_good hG bs)
  | .list m items => blk_list_pos G m items (items_good hG items)
  | .htmlb ls => blk_htmlb_pos G hG ls
  | .table al h rows => blk_table_pos G hG al h rows
theorem blks_good (hG : cleanG G = true) : ∀ bs : Blks, BlksGood G bs
  | .nil => blks_nil_pos G
  | .cons b r => blks_cons_pos G b r (blk_good hG b) (blks_good hG r)
theorem items_good (hG : cleanG G = true) : ∀ items : Items, ItemsGood G items
  | .nil => items_nil_pos G
  | .cons t bs r => items_cons_pos G t bs r (blks_good hG bs) (items_good hG r)
end

end blocks

end Comrak.Canon
