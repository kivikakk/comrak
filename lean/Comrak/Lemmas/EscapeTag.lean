/-
C19 helper lemmas: the start-tag recogniser reads back what `openTag` wrote, and entity-decoding the href
escaper's output gives the plain percent-encoding of the input.
-/
import Comrak.Lemmas.Escape
namespace Comrak
open Bytes

theorem spanName_append (n : Bytes) (c : UInt8) (r : Bytes) (hn : n.all nameChar = true)
    (hc : nameChar c = false) : spanName (n ++ c :: r) = (n, c :: r) := by
  induction n with
  | nil => simp [spanName, hc]
  | cons a p ih =>
    simp only [List.all_cons, Bool.and_eq_true] at hn
    simp [spanName, hn.1, ih hn.2]

theorem spanValue_append (x rest : Bytes) (hx : (0x22 : UInt8) ∉ x) :
    spanValue (x ++ 0x22 :: rest) = some (x, rest) := by
  induction x with
  | nil => simp [spanValue]
  | cons a p ih =>
    simp only [List.mem_cons, not_or] at hx
    have ha : a ≠ 0x22 := fun e => hx.1 e.symm
    simp [spanValue, ha, ih hx.2]

theorem openTagAttrs_cons (k v : Bytes) (r : List (Bytes × Bytes)) :
    openTagAttrs ((k, v) :: r) = 0x20 :: (k ++ 0x3D :: 0x22 :: (escape v ++ 0x22 :: openTagAttrs r)) := by
  simp [openTagAttrs]

theorem parseAttrs_openTagAttrs (attrs : List (Bytes × Bytes))
    (hk : ∀ kv ∈ attrs, validName kv.1 = true) (fuel : Nat) (hf : attrs.length + 1 ≤ fuel) :
    parseAttrs fuel (openTagAttrs attrs ++ [0x3E]) = some attrs := by
  induction attrs generalizing fuel with
  | nil =>
    cases fuel with
    | zero => omega
    | succ f => simp [openTagAttrs, parseAttrs]
  | cons kv r ih =>
    obtain ⟨k, v⟩ := kv
    cases fuel with
    | zero => omega
    | succ f =>
      have hkv := hk (k, v) (by simp)
      simp only [validName, Bool.and_eq_true, Bool.not_eq_true'] at hkv
      have hrest := ih (fun kv h => hk kv (by simp [h])) f (by simpa using hf)
      have hsp := fun t => spanName_append k 0x3D t hkv.2 (by decide)
      have hval := fun t => spanValue_append (escape v) t
        (noActive_no_raw _ _ (.inr (.inr rfl)) (escape_noActive v))
      rw [openTagAttrs_cons]
      simp only [List.cons_append, List.append_assoc, parseAttrs, hsp, hkv.1, hval, unescapeText_escape, hrest]
      simp

theorem openTagAttrs_length (attrs : List (Bytes × Bytes)) : attrs.length ≤ (openTagAttrs attrs).length := by
  induction attrs with
  | nil => simp
  | cons kv r ih => obtain ⟨k, v⟩ := kv; rw [openTagAttrs_cons]; simp; omega

theorem openTagAttrs_head (attrs : List (Bytes × Bytes)) :
    ∃ c r, openTagAttrs attrs ++ [0x3E] = c :: r ∧ nameChar c = false := by
  cases attrs with
  | nil => exact ⟨0x3E, [], rfl, by decide⟩
  | cons kv r => obtain ⟨k, v⟩ := kv; rw [openTagAttrs_cons]; exact ⟨0x20, _, rfl, by decide⟩

theorem parseStartTag_openTag (tag : Bytes) (attrs : List (Bytes × Bytes)) (ht : validName tag = true)
    (hk : ∀ kv ∈ attrs, validName kv.1 = true) : parseStartTag (openTag tag attrs) = some (tag, attrs) := by
  simp only [validName, Bool.and_eq_true, Bool.not_eq_true'] at ht
  obtain ⟨c, r, e, hc⟩ := openTagAttrs_head attrs
  have hsp : spanName (tag ++ (openTagAttrs attrs ++ [0x3E])) = (tag, openTagAttrs attrs ++ [0x3E]) := by
    rw [e]; exact spanName_append tag c r ht.2 hc
  have hlen := openTagAttrs_length attrs
  have hp := parseAttrs_openTagAttrs attrs hk ((openTag tag attrs).length + 1) (by
    simp [openTag]; omega)
  simp only [openTag, List.cons_append, List.nil_append, List.append_assoc, parseStartTag, hsp, ht.1] at hp ⊢
  simp only [List.length_cons, List.length_append, List.length_nil] at hp ⊢
  simp [hp]

/-- Bytes the href escaper leaves readable after entity decoding: the safe set, `&` and `'`. -/
def hrefPlain (b : UInt8) : Bool := hrefSafe b || b == 0x26 || b == 0x27

/-- Plain percent-encoding: what `escapeHref` means once `&amp;` / `&#x27;` are read as `&` / `'`. -/
def pctEncByte (b : UInt8) : Bytes := if hrefPlain b then [b] else pctByte b
def pctEnc (bs : Bytes) : Bytes := bs.flatMap pctEncByte

theorem pctEnc_cons (b : UInt8) (r : Bytes) : pctEnc (b :: r) = pctEncByte b ++ pctEnc r := by
  simp [pctEnc]

theorem entityDecodeAux_plain (x rest : Bytes) (hx : (0x26 : UInt8) ∉ x) :
    entityDecodeAux 0 (x ++ rest) = x ++ entityDecodeAux 0 rest := by
  induction x with
  | nil => rfl
  | cons a p ih =>
    simp only [List.mem_cons, not_or] at hx
    have ha : ¬ ((0x26 : UInt8) = a) := hx.1
    simp [entityDecodeAux, isPrefixB, entAmp, entApos, ha, ih hx.2]

theorem pctByte_no_amp (b : UInt8) : (0x26 : UInt8) ∉ pctByte b :=
  fun h => hrefSafe_ne_amp _ (pctByte_safe b _ h) rfl

theorem entityDecodeAux_hrefByte (b : UInt8) (rest : Bytes) :
    entityDecodeAux 0 (hrefByte b ++ rest) = pctEncByte b ++ entityDecodeAux 0 rest := by
  refine hrefByte_cases
    (P := fun b e => entityDecodeAux 0 (e ++ rest) = pctEncByte b ++ entityDecodeAux 0 rest)
    ?_ rfl rfl ?_ b
  · intro b hs
    rw [pctEncByte, hrefPlain, hs]
    exact entityDecodeAux_plain [b] rest (by simpa using (hrefSafe_ne_amp b hs).symm)
  · intro b hs h1 h2
    rw [pctEncByte, if_neg (by simp [hrefPlain, hs, h1, h2])]
    exact entityDecodeAux_plain _ _ (pctByte_no_amp b)

theorem entityDecode_escapeHref (a : Bytes) : entityDecode (escapeHref a) = pctEnc a := by
  unfold entityDecode
  induction a with
  | nil => rfl
  | cons b r ih => rw [escapeHref_cons, entityDecodeAux_hrefByte, ih, pctEnc_cons]

theorem pctDecodeAux_pct (r : Bytes) :
    pctDecodeAux 0 (0x25 :: r) = pctStep r (· :: pctDecodeAux 2 r) (0x25 :: pctDecodeAux 0 r) := rfl

theorem pctDecodeAux_pct_literal (s : Bytes) (h : twoHexPrefix s = false) :
    pctDecodeAux 0 (0x25 :: s) = 0x25 :: pctDecodeAux 0 s := by
  rw [pctDecodeAux_pct, pctStep_other h]

theorem pctDecodeAux_pct_hex (a b : UInt8) (t : Bytes) (x y : UInt8) (ha : hexVal? a = some x)
    (hb : hexVal? b = some y) :
    pctDecodeAux 0 (0x25 :: a :: b :: t) = (x <<< 4 ||| y) :: pctDecodeAux 0 t := by
  rw [pctDecodeAux_pct, pctStep_hex ha hb]
  rfl

theorem hrefPlain_of_hex (b : UInt8) (h : (hexVal? b).isSome = true) : hrefPlain b = true := by
  simp [hrefPlain, hrefSafe_of_hex b h]

theorem pct_plain (b : UInt8) (h : hrefPlain b = false) : b ≠ 0x25 := by
  rintro rfl
  exact absurd h (by decide)

theorem pctEncByte_plain (b : UInt8) (h : hrefPlain b = true) : pctEncByte b = [b] := by
  simp [pctEncByte, h]

theorem pctEncByte_not (b : UInt8) (h : hrefPlain b = false) :
    pctEncByte b = [0x25, hexDigit (b >>> 4), hexDigit (b &&& 0xF)] := by
  simp [pctEncByte, h, pctByte]

theorem twoHexPrefix_pctEnc (r : Bytes) : twoHexPrefix (pctEnc r) = twoHexPrefix r := by
  refine twoHexPrefix_flatMap pctEncByte (fun b h => pctEncByte_plain b (hrefPlain_of_hex b h)) ?_ r
  intro b hb
  cases hp : hrefPlain b with
  | true => exact ⟨b, [], pctEncByte_plain b hp, hb⟩
  | false => exact ⟨_, _, pctEncByte_not b hp, by decide⟩

/-- Percent-decoding does not see the encoding.  A byte written as `%XY` decodes to itself; a `%`
    of the input followed by two hex digits consumes them on both sides (the encoder leaves hex
    digits alone), hence the recursion on the tail after them. -/
theorem pctDecodeAux_pctEnc : ∀ a : Bytes, pctDecodeAux 0 (pctEnc a) = pctDecodeAux 0 a
  | [] => rfl
  | b :: r => by
    rw [pctEnc_cons]
    cases hp : hrefPlain b with
    | false =>
      obtain ⟨h1, h2, h3⟩ := hex_roundtrip b
      rw [pctEncByte_not b hp]
      simp only [List.cons_append, List.nil_append]
      rw [pctDecodeAux_pct_hex _ _ _ _ _ h1 h2, h3, pctDecodeAux_pctEnc r]
      simp [pctDecodeAux, pct_plain b hp]
    | true =>
      rw [pctEncByte_plain b hp]
      simp only [List.cons_append, List.nil_append]
      by_cases hb : b = 0x25
      · subst hb
        cases h2 : twoHexPrefix r with
        | false =>
          rw [pctDecodeAux_pct_literal r h2, pctDecodeAux_pct_literal (pctEnc r) ((twoHexPrefix_pctEnc r).trans h2),
            pctDecodeAux_pctEnc r]
        | true =>
          match r, h2 with
          | a :: c :: t, h2 =>
            simp only [twoHexPrefix, Bool.and_eq_true, Option.isSome_iff_exists] at h2
            obtain ⟨⟨x, ha⟩, ⟨y, hc⟩⟩ := h2
            rw [pctEnc_cons, pctEncByte_plain a (hrefPlain_of_hex a (by rw [ha]; rfl)), pctEnc_cons,
              pctEncByte_plain c (hrefPlain_of_hex c (by rw [hc]; rfl))]
            simp only [List.cons_append, List.nil_append]
            rw [pctDecodeAux_pct_hex _ _ _ _ _ ha hc, pctDecodeAux_pct_hex _ _ _ _ _ ha hc, pctDecodeAux_pctEnc t]
      · simp [pctDecodeAux, hb, pctDecodeAux_pctEnc r]
termination_by a => a.length
decreasing_by all_goals simp +arith

theorem pctDecode_pctEnc (a : Bytes) : pctDecode (pctEnc a) = pctDecode a :=
  pctDecodeAux_pctEnc a

end Comrak
