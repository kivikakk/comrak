/-
C02 helper lemmas: the pieces from which the HTML renderer builds its tokens (literals, anchors,
attribute lists, the fixed token groups) are in the safe language `allowedTok`/`attrOk`/`litSafe`.
-/
import Comrak.HtmlSafe
import Comrak.Lemmas.HtmlSafeGen
import Comrak.Lemmas.Html
import Comrak.Lemmas.Escape
namespace Comrak
open Bytes

theorem litSafe_append (a b : Bytes) : litSafe (a ++ b) = (litSafe a && litSafe b) := by
  simp [litSafe, List.all_append]

theorem litSafe_of_all (P : UInt8 → Bool)
    (hP : P 0x22 = false ∧ P 0x3C = false ∧ P 0x3E = false ∧ P 0x26 = false)
    (v : Bytes) (h : ∀ c ∈ v, P c = true) : litSafe v = true := by
  simp only [litSafe, List.all_eq_true, Bool.not_eq_true', Bool.or_eq_false_iff, beq_eq_false_iff_ne]
  intro c hc
  have hc := h c hc
  refine ⟨⟨⟨?_, ?_⟩, ?_⟩, ?_⟩ <;> rintro rfl <;> simp_all

@[simp] theorem litSafe_dec (n : Nat) : litSafe (ofNatDec n) = true :=
  litSafe_of_all isAsciiDigit (by decide) _ (ofNatDec_digits n)

@[simp] theorem litSafe_nil : litSafe [] = true := rfl
@[simp] theorem litSafe_cons (c : UInt8) (r : Bytes) :
    litSafe (c :: r) = (!(c == 0x22 || c == 0x3C || c == 0x3E || c == 0x26) && litSafe r) := by
  simp [litSafe]

@[simp] theorem litSafe_spBytes (sp : Sp) : litSafe (spBytes sp) = true := by
  simp [spBytes, litSafe_append]

theorem not_mem_of_valueSafe (c : UInt8) (hc : c = 0x22 ∨ c = 0x3C ∨ c = 0x3E) :
    ∀ x : Bytes, valueSafe x = true → c ∉ x
  | [], _ => List.not_mem_nil
  | b :: r, h => by
    simp only [valueSafe, Bool.and_eq_true] at h
    simp only [List.mem_cons, not_or]
    refine ⟨?_, not_mem_of_valueSafe c hc r h.2⟩
    rintro rfl
    rcases hc with rfl | rfl | rfl <;> simp at h

@[simp] theorem all_allowed_cr (st : St) : (W.cr st).1.all allowedTok = true := by
  unfold W.cr; split <;> simp [allowedTok, litSafe]

@[simp] theorem spAttr_ok (o : HtmlOpts) (sp : Sp) : (spAttr o sp).all attrOk = true := by
  unfold spAttr; split
  · simp [attrOk, partOk]
  · rfl

/-- The six heading names are the last entries of `tagVocab`. -/
theorem headingName_mem (level : Nat) (h1 : 1 ≤ level) (h6 : level ≤ 6) : headingName level ∈ tagVocab :=
  List.mem_of_mem_drop (i := 32) (show _ ∈ (List.range' 1 6).map headingName from
    List.mem_map.mpr ⟨level, List.mem_range'_1.mpr ⟨h1, by omega⟩, rfl⟩)

@[simp high] theorem cellName_vocab (b : Bool) : tagVocab.contains (if b then S.t_th else S.t_td) = true := by
  cases b <;> decide

@[simp] theorem litSafe_alertCss (ty : AlertType) : litSafe (alertCss ty) = true := by
  cases ty <;> simp [alertCss]

@[simp] theorem litSafe_alertTitle (ty : AlertType) : litSafe (alertTitle ty) = true := by
  cases ty <;> simp [alertTitle]

/-- The normalisation supplied to the model only produces attribute-safe bytes
    (the real normaliser keeps letters, marks, numbers, connector punctuation, `-`). -/
def NormSafe (nt : NormTable) : Prop := ∀ s, litSafe (nt.norm s) = true

theorem normAscii_safe (s : Bytes) : litSafe (normAscii s) = true := by
  refine litSafe_of_all (fun c => c == 0x2D || c == 0x5F || isAsciiAlnum c || decide (c ≥ 0x80)) (by decide) _ ?_
  simp only [normAscii, List.mem_filterMap]
  rintro c ⟨x, _, hx⟩
  split at hx
  · cases hx; rfl
  · split at hx
    · cases hx; assumption
    · cases hx

theorem normSafe_empty : NormSafe {} := by
  intro s; simp [NormTable.norm, normAscii_safe]

theorem anchorLoop_safe (issued : List Bytes) (id : Bytes) (hid : litSafe id = true) (fuel uniq : Nat) (a : Bytes)
    (h : anchorLoop issued id fuel uniq = some a) : litSafe a = true := by
  induction fuel generalizing uniq with
  | zero => simp [anchorLoop] at h
  | succ k ih =>
    simp only [anchorLoop] at h
    -- the candidate is `id` or `id-<decimal>`; either the search goes on or it is the result
    split at h <;> split at h
    · exact ih _ h
    · cases h; exact hid
    · exact ih _ h
    · cases h; simp [litSafe_append, hid]

theorem anchorize_safe (nt : NormTable) (hn : NormSafe nt) (issued : List Bytes) (h : Bytes) :
    litSafe (anchorize nt issued h).1 = true := by
  unfold anchorize
  simp only []
  cases ha : anchorLoop issued (nt.norm h) (issued.length + 1) 0 with
  | none => exact hn h
  | some a => exact anchorLoop_safe _ _ (hn h) _ _ _ ha

/-- Node-local part of `ParserShape`: no `Raw` node, `EscapedTag` payload harmless, heading level 1-6. -/
def nodeSafe : NodeValue → Bool
  | .raw _ => false
  | .escapedTag s => litSafe s
  | .heading level _ => decide (1 ≤ level) && decide (level ≤ 6)
  | _ => true

@[simp] theorem all_backrefToks (name : Bytes) (ix k n : Nat) : (backrefToks name ix k n).all allowedTok = true := by
  induction k generalizing n with
  | zero => rfl
  | succ k ih =>
    simp only [backrefToks, List.all_append, ih, Bool.and_true]
    split <;> simp [allowedTok, attrOk, partOk, litAttr, litSafe_append]

@[simp] theorem all_putBackref (name : Bytes) (total : Nat) (st : St) :
    (putBackref name total st).1.1.all allowedTok = true := by
  unfold putBackref; split <;> simp

theorem all_htmlBlockToks (o : HtmlOpts) (hu : o.unsafe_ = false) (l : Bytes) :
    (htmlBlockToks o l).all allowedTok = true := by
  simp [htmlBlockToks, hu, all_ite, allowedTok]

theorem all_htmlInlineToks (o : HtmlOpts) (hu : o.unsafe_ = false) (l : Bytes) :
    (htmlInlineToks o l).all allowedTok = true := by
  simp [htmlInlineToks, hu, all_ite, allowedTok]

@[simp] theorem all_alignAttr (al : Align) : (alignAttr al).all attrOk = true := by
  cases al <;> simp [alignAttr, litAttr, attrOk, partOk]

@[simp] theorem all_rowSectionToks (h : Bool) (prev : Option NodeValue) : (rowSectionToks h prev).all allowedTok = true := by
  unfold rowSectionToks; (repeat' split) <;> simp [allowedTok, nl]

@[simp] theorem all_urlVal (o : HtmlOpts) (u : Bytes) : (urlVal o u).all partOk = true := by
  unfold urlVal; split <;> simp [partOk]

@[simp] theorem mem_urlVal_ok (o : HtmlOpts) (u : Bytes) (x : APart) (h : x ∈ urlVal o u) : partOk x = true :=
  List.all_eq_true.mp (all_urlVal o u) x h

@[simp] theorem all_mathCodeBlockToks (o : HtmlOpts) (sp : Sp) (l : Bytes) :
    (mathCodeBlockToks o sp l).all allowedTok = true := by
  simp [mathCodeBlockToks, all_ite, allowedTok, attrOk, partOk, nl]

@[simp] theorem all_codeBlockAttrs (o : HtmlOpts) (info : Bytes) (sp : Sp) :
    (codeBlockAttrs o info sp).1.all attrOk = true ∧ (codeBlockAttrs o info sp).2.all attrOk = true := by
  simp [codeBlockAttrs, all_ite, attrOk, partOk]

end Comrak
