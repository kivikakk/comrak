/-
C18 helper lemmas, XML half: erasing the ` sourcepos="…"` attribute from the tokens of the XML
formatter model (Comrak/Xml.lean).  The formatter's only state is the `indent` field, which does
not depend on the option, so the per-node lemma lifts to whole trees by a plain mutual induction.
-/
import Comrak.Lemmas.XmlRead
namespace Comrak
open Bytes

def isXmlSpAttr : XAttr → Bool
  | .mk n _ => n == XS.a_sourcepos

def eraseXmlSpTok : XTok → XTok
  | .opn i n as => .opn i n (as.filter fun a => !isXmlSpAttr a)
  | .leaf i n as l => .leaf i n (as.filter fun a => !isXmlSpAttr a) l
  | .empty i n as => .empty i n (as.filter fun a => !isXmlSpAttr a)
  | .close i n => .close i n

def eraseXmlSp (ts : List XTok) : List XTok := ts.map eraseXmlSpTok

def withXmlSp (o : XmlOpts) (b : Bool) : XmlOpts := { o with sourcepos := b }

@[simp] theorem xeq_a_sourcepos : (XS.a_sourcepos == XS.a_sourcepos) = true := by decide

@[simp] theorem isXmlSpAttr_xAttr (n v : Bytes) : isXmlSpAttr (xAttr n v) = (n == XS.a_sourcepos) := rfl
@[simp] theorem isXmlSpAttr_xAttrE (n v : Bytes) : isXmlSpAttr (xAttrE n v) = (n == XS.a_sourcepos) := rfl
@[simp] theorem xmlSpAttr_off (o : XmlOpts) (sp : Sp) : xmlSpAttr (withXmlSp o false) sp = [] := by
  simp [xmlSpAttr, withXmlSp]

@[simp] theorem filter_xmlSpAttr (o : XmlOpts) (b : Bool) (sp : Sp) :
    (xmlSpAttr (withXmlSp o b) sp).filter (fun a => !isXmlSpAttr a) = [] := by
  simp only [xmlSpAttr, withXmlSp]
  by_cases h : (b && sp.sl != 0) = true <;> simp [h]

theorem filter_of_attrsGood (as : List (Bytes × Bytes)) (l : List XAttr) (h : attrsGood as l = true)
    (hs : (as.any fun a => a.1 == XS.a_sourcepos) = true) :
    l.filter (fun a => !isXmlSpAttr a) = l := by
  induction l generalizing as with
  | nil => rfl
  | cons a r ih =>
    cases a with
    | mk n v =>
      simp only [attrsGood, Bool.and_eq_true, Bool.not_eq_true'] at h
      have hn : isXmlSpAttr (.mk n v) = false := by
        cases e : n == XS.a_sourcepos with
        | false => exact e
        | true => rw [eq_of_beq e, hs] at h; cases h.1.2
      rw [List.filter_cons_of_pos (by simp [hn]), ih _ h.2 (by simp [hs])]

/-- None of the attributes `format_node` writes after the position is called `sourcepos`
    (they are good after one of that name), so erasing leaves them alone. -/
theorem xmlKindAttrs_noSp (cx : XCtx) (v : NodeValue) :
    (xmlKindAttrs cx v).filter (fun a => !isXmlSpAttr a) = xmlKindAttrs cx v :=
  filter_of_attrsGood _ _ (attrsGood_kind cx v []) rfl

theorem xmlAttrs_eraseSp (o : XmlOpts) (b : Bool) (cx : XCtx) (v : NodeValue) (sp : Sp) :
    (xmlAttrs (withXmlSp o b) cx v sp).filter (fun a => !isXmlSpAttr a)
      = xmlAttrs (withXmlSp o false) cx v sp := by
  simp [xmlAttrs, List.filter_append, xmlKindAttrs_noSp]

theorem eraseXmlSp_append (a b : List XTok) : eraseXmlSp (a ++ b) = eraseXmlSp a ++ eraseXmlSp b := by
  simp [eraseXmlSp]

mutual
theorem renderXmlT_withSp (o : XmlOpts) (b : Bool) :
    ∀ (t : Tree) (ind : Nat) (cx : XCtx),
      eraseXmlSp (renderXmlT (withXmlSp o b) ind cx t) = renderXmlT (withXmlSp o false) ind cx t
  | .node v sp cs, ind, cx => by
    have hF := renderXmlF_withSp o b cs (ind + 2) (some v) cx.parent 0
    simp only [eraseXmlSp] at hF
    simp only [renderXmlT]
    split <;> split <;>
      simp [eraseXmlSp, eraseXmlSpTok, xmlAttrs_eraseSp, hF]
theorem renderXmlF_withSp (o : XmlOpts) (b : Bool) :
    ∀ (f : Forest) (ind : Nat) (parent grand : Option NodeValue) (idx : Nat),
      eraseXmlSp (renderXmlF (withXmlSp o b) ind parent grand idx f)
        = renderXmlF (withXmlSp o false) ind parent grand idx f
  | .nil, _, _, _, _ => by simp [renderXmlF, eraseXmlSp]
  | .cons t ts, ind, parent, grand, idx => by
    simp only [renderXmlF, eraseXmlSp_append]
    rw [renderXmlT_withSp o b t ind _, renderXmlF_withSp o b ts ind parent grand (idx + 1)]
end

theorem eraseXmlSpTok_idem (t : XTok) : eraseXmlSpTok (eraseXmlSpTok t) = eraseXmlSpTok t := by
  cases t <;> simp [eraseXmlSpTok, List.filter_filter]

/-- The bytes of a position attribute: ` sourcepos="l:c-l:c"`. -/
def xmlSpAttrBytes (sp : Sp) : Bytes :=
  [0x20] ++ XS.a_sourcepos ++ [0x3D, 0x22] ++ xmlSpBytes sp ++ [0x22]

/-- The attributes are spelled right after the element name, so that is where the option inserts its bytes. -/
theorem spell_xmlAttrs_on (o : XmlOpts) (cx : XCtx) (v : NodeValue) (sp : Sp) :
    spellXAttrs (xmlAttrs (withXmlSp o true) cx v sp)
      = (if sp.sl != 0 then xmlSpAttrBytes sp else []) ++ spellXAttrs (xmlAttrs (withXmlSp o false) cx v sp) := by
  simp only [xmlAttrs, xmlSpAttr, withXmlSp, spellXAttrs, List.flatMap_append]
  by_cases h : sp.sl = 0 <;>
    simp [h, xAttr, XAttr.spell, XVal.spell, xmlSpAttrBytes]

end Comrak
