/-
Helper lemmas about the line splitter (Comrak/Feed.lean): the feeder's loop computes `splitLines`.
-/
import Comrak.Feed
namespace Comrak.Feed
open Comrak Bytes

def plain (b : UInt8) : Prop := b ≠ 0x0A ∧ b ≠ 0x0D ∧ b ≠ 0x00

theorem isLineEnd_false (b : UInt8) (h : isLineEnd b = false) : b ≠ 0x0A ∧ b ≠ 0x0D := by
  simpa [isLineEnd] using h

theorem isLineEnd_true (b : UInt8) (h : isLineEnd b = true) : b = 0x0A ∨ b = 0x0D := by
  simpa [isLineEnd] using h

theorem splitLines_seg (seg rest cur : Bytes) (h : ∀ b ∈ seg, plain b) :
    splitLines cur false (seg ++ rest) = splitLines (cur ++ seg) false rest := by
  induction seg generalizing cur with
  | nil => rw [List.append_nil]; rfl
  | cons b r ih =>
    obtain ⟨⟨h1, h2, h3⟩, hr⟩ := List.forall_mem_cons.mp h
    simp only [List.cons_append, splitLines, h1, h2, h3, if_false]
    rw [ih _ hr, List.append_assoc]
    rfl

theorem splitLines_eol (cur : Bytes) (c : UInt8) (t : Bytes) (hc : isLineEnd c = true) :
    splitLines cur false (c :: t) = cur :: splitLines [] false (advance (c :: t)).1 := by
  rcases isLineEnd_true c hc with rfl | rfl
  · rfl
  · cases t with
    | nil => rfl
    | cons c' u => by_cases hc' : c' = 0x0A <;> simp [advance, splitLines, hc']

theorem advance_length (c : UInt8) (t : Bytes) (hc : ¬plain c) :
    (advance (c :: t)).1.length ≤ t.length := by
  by_cases h1 : c = 0x0A
  · subst h1; exact Nat.le_refl _
  by_cases h2 : c = 0x0D
  · subst h2
    cases t with
    | nil => exact Nat.le_refl _
    | cons c' u => by_cases h : c' = 0x0A <;> simp [advance, h]
  by_cases h3 : c = 0x00
  · subst h3; exact Nat.le_refl _
  exact absurd ⟨h1, h2, h3⟩ hc

theorem plain_iff (b : UInt8) : plain b ↔ (isLineEnd b || b == 0x00) = false := by
  simp [plain, isLineEnd, and_assoc]

theorem scanSeg_spec (rem : Bytes) :
    (scanSeg rem).1 ++ (scanSeg rem).2 = rem ∧ (∀ b ∈ (scanSeg rem).1, plain b) ∧
      ∀ c t, (scanSeg rem).2 = c :: t → ¬plain c := by
  induction rem with
  | nil => exact ⟨rfl, nofun, nofun⟩
  | cons b r ih =>
    simp only [scanSeg]
    split
    · rename_i hb
      refine ⟨rfl, nofun, fun c t h hp => ?_⟩
      obtain rfl : b = c := (List.cons.inj h).1
      rw [(plain_iff b).mp hp] at hb
      contradiction
    · rename_i hb
      exact ⟨congrArg _ ih.1,
        List.forall_mem_cons.mpr ⟨(plain_iff b).mpr (Bool.eq_false_iff.mpr hb), ih.2.1⟩, ih.2.2⟩

theorem feedLoop_nil (eof : Bool) (fuel : Nat) (lb : Bytes) : feedLoop eof fuel lb [] = ⟨[], lb, false⟩ := by
  cases fuel <;> rfl

theorem finish_cons (l : Bytes) (o : Out) (b : Bool) :
    finish ⟨l :: o.lines, o.linebuf, b⟩ = l :: finish o := by
  simp only [finish]
  split <;> rfl

theorem feedLoop_spec (fuel : Nat) (lb rem : Bytes) (hf : rem.length ≤ fuel) :
    finish (feedLoop true fuel lb rem) = splitLines lb false rem := by
  induction fuel generalizing lb rem with
  | zero =>
    obtain rfl : rem = [] := List.eq_nil_of_length_eq_zero (by omega)
    rfl
  | succ fuel ih =>
    cases rem with
    | nil => rfl
    | cons a rem' =>
      obtain ⟨happ, hpl, hstop⟩ := scanSeg_spec (a :: rem')
      simp only [feedLoop]
      generalize (scanSeg (a :: rem')).1 = seg at *
      generalize (scanSeg (a :: rem')).2 = rest at *
      rw [← happ, splitLines_seg seg rest lb hpl]
      cases rest with
      | nil =>
        have hne : lb ++ seg ≠ [] := by
          rw [List.append_nil] at happ
          simp [happ]
        simp [advance, feedLoop_nil, finish, splitLines, hne]
      | cons c t =>
        have ht : (advance (c :: t)).1.length ≤ fuel := by
          have := advance_length c t (hstop c t rfl)
          rw [← happ] at hf
          simp only [List.length_append, List.length_cons] at hf
          omega
        by_cases hc : isLineEnd c = true
        · simp only [hc, if_true]
          rw [finish_cons, ih [] _ ht, splitLines_eol _ c t hc]
        · obtain ⟨h1, h2⟩ := isLineEnd_false c (Bool.eq_false_iff.mpr hc)
          obtain rfl : c = 0x00 := Decidable.byContradiction fun h0 => hstop c t rfl ⟨h1, h2, h0⟩
          exact ih (lb ++ seg ++ FFFD) t ht

/-- The `process_line` calls made by `parse_document` (`feed` with `eof`, then `finish`) are
    exactly `splitLines`. -/
theorem parseLines_eq_splitLines (s : Bytes) : parseLines s = splitLines [] false s := by
  cases s with
  | nil => rfl
  | cons c t => exact feedLoop_spec (c :: t).length [] (c :: t) (Nat.le_refl _)

end Comrak.Feed
