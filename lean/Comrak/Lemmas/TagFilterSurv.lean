/-
C14: no disallowed tag survives `tagfilterBlock`.  Rewriting a `<` to `&lt;` never changes the decision
`disallowedAtW sp` taken at an earlier `<`: the rewrite copies the input up to some `<` and writes `<` or `&` there
(`rewriteSpecW_split`), and the decision reads nothing at or behind either byte (`disallowedAtW_append_cut`).
-/
import Comrak.Lemmas.TagFilter
namespace Comrak
open Bytes

/-- Number of positions of `out` holding a `<` that opens a disallowed tag (white-space class `sp`). -/
def survivorsW (sp : UInt8 → Bool) : Bytes → Nat
  | [] => 0
  | b :: r => (if b = 0x3C ∧ disallowedAtW sp (b :: r) = true then 1 else 0) + survivorsW sp r

/-- White space as `ctype::isspace` (no form feed). -/
def survivorsC (out : Bytes) : Nat := survivorsW isSpace out
/-- The HTML tokenizer's white-space class (what `Drv.C14.survivors` counts). -/
def survivorsH (out : Bytes) : Nat := survivorsW htmlSpace out

/-- White-space classes that contain neither `<` nor `&`. -/
def SpOk (sp : UInt8 → Bool) : Prop := sp 0x3C = false ∧ sp 0x26 = false

theorem spOk_isSpace : SpOk isSpace := ⟨by decide, by decide⟩
theorem spOk_htmlSpace : SpOk htmlSpace := ⟨by decide, by decide⟩

theorem rewriteSpecW_cons (sp : UInt8 → Bool) (b : UInt8) (t : Bytes) :
    rewriteSpecW sp (b :: t) = b :: rewriteSpecW sp t ∨
    (b = 0x3C ∧ rewriteSpecW sp (b :: t) = 0x26 :: 0x6C :: 0x74 :: 0x3B :: rewriteSpecW sp t) := by
  by_cases hd : b = 0x3C ∧ disallowedAtW sp (b :: t) = true
  · obtain ⟨rfl, hd⟩ := hd
    exact .inr ⟨rfl, by simp [rewriteSpecW, hd, S.v_lt]⟩
  · exact .inl (by simp [rewriteSpecW, hd])

theorem toLower_ne_lt (b : UInt8) (h : b ≠ 0x3C) : toLowerAscii b ≠ 0x3C := by
  rcases toLowerAscii_cases b with h' | ⟨h1, h2, h3⟩
  · rwa [h']
  · intro e
    simp only [e, UInt8.toNat_ofNat, Nat.reducePow, Nat.reduceMod] at h3
    omega

theorem rewriteSpecW_split (sp : UInt8 → Bool) (r : Bytes) :
    rewriteSpecW sp r = r ∨ ∃ u t x t', (x = 0x3C ∨ x = 0x26) ∧ r = u ++ 0x3C :: t ∧
      rewriteSpecW sp r = u ++ x :: t' := by
  induction r with
  | nil => exact .inl rfl
  | cons b r ih =>
    rcases rewriteSpecW_cons sp b r with e | ⟨rfl, e⟩
    · rcases ih with h | ⟨u, t, x, t', hx, h1, h2⟩
      · exact .inl (by rw [e, h])
      · exact .inr ⟨b :: u, t, x, t', hx, by rw [h1]; rfl, by rw [e, h2]; rfl⟩
    · exact .inr ⟨[], r, 0x26, _, .inr rfl, rfl, e⟩

theorem disallowedAtW_rewrite (sp : UInt8 → Bool) (hsp : SpOk sp) (r : Bytes) :
    disallowedAtW sp (0x3C :: rewriteSpecW sp r) = disallowedAtW sp (0x3C :: r) := by
  rcases rewriteSpecW_split sp r with e | ⟨u, t, x, t', hx, e1, e2⟩
  · rw [e]
  · have hx' : sp x = false := hx.elim (· ▸ hsp.1) (· ▸ hsp.2)
    rw [e2, e1, disallowedAtW_append_cut sp x hx hx', disallowedAtW_append_cut sp 0x3C (.inl rfl) hsp.1]

theorem survivorsW_rewrite (sp : UInt8 → Bool) (hsp : SpOk sp) (l : Bytes) :
    survivorsW sp (rewriteSpecW sp l) = 0 := by
  induction l with
  | nil => rfl
  | cons b r ih =>
    by_cases hd : b = 0x3C ∧ disallowedAtW sp (b :: r) = true
    · obtain ⟨rfl, hd⟩ := hd
      simp [rewriteSpecW, hd, S.v_lt, survivorsW, ih]
    · have : ¬ (b = 0x3C ∧ disallowedAtW sp (b :: rewriteSpecW sp r) = true) :=
        fun ⟨hb, h⟩ => hd ⟨hb, by subst hb; rwa [disallowedAtW_rewrite sp hsp] at h⟩
      simp [rewriteSpecW, hd, survivorsW, ih, this]

end Comrak
