import Comrak.Html
import Comrak.HtmlLang
import Comrak.Lemmas.AllToksAttr
namespace Comrak
open Bytes

@[simp] theorem W.emit_fst (ts : List Tok) (st : St) : (W.emit ts st).1 = ts := rfl
@[simp] theorem W.emit_fnIx (ts : List Tok) (st : St) : (W.emit ts st).2.fnIx = st.fnIx := rfl
@[simp] theorem W.emit_written (ts : List Tok) (st : St) : (W.emit ts st).2.writtenFnIx = st.writtenFnIx := rfl
@[simp] theorem W.emit_anchors (ts : List Tok) (st : St) : (W.emit ts st).2.anchors = st.anchors := rfl
@[simp] theorem W.nop_fst (st : St) : (W.nop st).1 = [] := rfl
@[simp] theorem W.nop_snd (st : St) : (W.nop st).2 = st := rfl
@[simp] theorem W.seq_fst (a b : W) (st : St) : ((a ⨟ b) st).1 = (a st).1 ++ (b (a st).2).1 := rfl
@[simp] theorem W.seq_snd (a b : W) (st : St) : ((a ⨟ b) st).2 = (b (a st).2).2 := rfl

/-- A choice between two writers passes a test if both do (`ite_self` then closes the goal). -/
theorem W.all_ite (c : Prop) [Decidable c] (a b : W) (st : St) (P : Tok → Bool) :
    ((if c then a else b) st).1.all P = if c then (a st).1.all P else (b st).1.all P := by
  split <;> rfl

theorem all_ite {α : Type} (c : Prop) [Decidable c] (l m : List α) (P : α → Bool) :
    (if c then l else m).all P = if c then l.all P else m.all P := by
  split <;> rfl

attribute [all_toks] W.seq_fst W.emit_fst W.nop_fst W.all_ite all_ite List.all_append List.all_cons List.all_nil nl
  Bool.and_self Bool.and_true Bool.true_and ite_self

@[simp] theorem W.cr_fnIx (st : St) : (W.cr st).2.fnIx = st.fnIx := by
  unfold W.cr; split <;> rfl
@[simp] theorem W.cr_written (st : St) : (W.cr st).2.writtenFnIx = st.writtenFnIx := by
  unfold W.cr; split <;> rfl
@[simp] theorem W.cr_anchors (st : St) : (W.cr st).2.anchors = st.anchors := by
  unfold W.cr; split <;> rfl

@[simp] theorem events_nil : events [] = [] := rfl
@[simp] theorem events_append (a b : List Tok) : events (a ++ b) = events a ++ events b := by
  simp [events, List.flatMap_append]
@[simp] theorem events_cons (t : Tok) (ts : List Tok) : events (t :: ts) = t.events ++ events ts := by
  simp [events]

@[simp] theorem events_cr (st : St) : events (W.cr st).1 = [] := by
  unfold W.cr; split <;> simp [events, Tok.events]

theorem run_append (s : List Bytes) (a b : List Ev) :
    run s (a ++ b) = (run s a).bind fun s' => run s' b := by
  induction a generalizing s with
  | nil => simp [run]
  | cons e r ih =>
    cases e with
    | op n => simp only [List.cons_append, run]; exact ih _
    | cl n =>
      cases s with
      | nil => simp [run]
      | cons top st =>
        simp only [List.cons_append, run]
        split
        · exact ih _
        · simp

theorem run_append_some {s s' : List Bytes} {a : List Ev} (b : List Ev) (h : run s a = some s') :
    run s (a ++ b) = run s' b := by
  rw [run_append, h]; rfl

@[simp] theorem run_nil (s : List Bytes) : run s [] = some s := rfl
@[simp] theorem run_op (s : List Bytes) (n : Bytes) (r : List Ev) : run s (.op n :: r) = run (n :: s) r := rfl
@[simp] theorem run_cl_same (s : List Bytes) (n : Bytes) (r : List Ev) : run (n :: s) (.cl n :: r) = run s r := by
  simp [run]

@[simp] theorem spell_nil : spell [] = [] := rfl
theorem spell_cons (t : Tok) (ts : List Tok) : spell (t :: ts) = t.spell ++ spell ts := rfl
theorem spell_append (a b : List Tok) : spell (a ++ b) = spell a ++ spell b := by
  simp only [spell, List.flatMap_append]

@[simp] theorem lastLfAfter_nil (c : Bool) : lastLfAfter c [] = c := rfl

theorem lastLfAfter_append (c : Bool) (a b : Bytes) :
    lastLfAfter c (a ++ b) = lastLfAfter (lastLfAfter c a) b := by
  cases b with
  | nil => rw [List.append_nil]; rfl
  | cons x r =>
    simp only [lastLfAfter, List.getLast?_append, List.getLast?_eq_some_getLast (List.cons_ne_nil x r), Option.some_or]

theorem renderT_seq (o : HtmlOpts) (nt : NormTable) (cx : Ctx) (v : NodeValue) (sp : Sp) (cs : Forest) :
    renderT o nt cx (.node v sp cs) =
      enter o nt cx v sp cs ⨟ (if htmlChildren v then renderF o nt (some v) cx.parent none 0 cs else W.nop) ⨟
        exit o cx v cs := by
  funext st
  simp only [renderT, W.seq]
  split <;> rfl

theorem renderF_nil (o : HtmlOpts) (nt : NormTable) (parent grand prev : Option NodeValue) (idx : Nat) :
    renderF o nt parent grand prev idx .nil = W.nop := by
  funext st; simp only [renderF, W.nop]

theorem renderF_seq (o : HtmlOpts) (nt : NormTable) (parent grand prev : Option NodeValue) (idx : Nat)
    (t : Tree) (ts : Forest) :
    renderF o nt parent grand prev idx (.cons t ts) =
      renderT o nt { parent := parent, grand := grand, prev := prev, isLast := ts.isNil, index := idx } t ⨟
        renderF o nt parent grand (some t.value) (idx + 1) ts := by
  funext st; simp only [renderF, W.seq]

end Comrak
