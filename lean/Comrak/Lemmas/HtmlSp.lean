/-
C18 helper lemmas, per node.  `W.eraseSp w` is the writer `w` with the `data-sourcepos` attribute erased from
what it writes; it distributes over the writer combinators, so "`enter` with the option on, erased, is `enter`
with the option off" is an equation between writers (tokens and final state at once), checked kind by kind
on the token lists alone.
-/
import Comrak.Lemmas.Html
namespace Comrak
open Bytes

def isSpAttr (a : Attr) : Bool := a.name == S.a_data_sourcepos

/-- Remove `data-sourcepos` from comrak's own start tags. -/
def eraseSpTok : Tok → Tok
  | .op n as => .op n (as.filter fun a => !isSpAttr a)
  | .vd n as => .vd n (as.filter fun a => !isSpAttr a)
  | t => t

def eraseSp (ts : List Tok) : List Tok := ts.map eraseSpTok

@[simp] theorem ne_data_sourcepos :
    (S.a_href == S.a_data_sourcepos) = false ∧ (S.a_src == S.a_data_sourcepos) = false ∧
    (S.a_alt == S.a_data_sourcepos) = false ∧ (S.a_title == S.a_data_sourcepos) = false ∧
    (S.a_class == S.a_data_sourcepos) = false ∧ (S.a_start == S.a_data_sourcepos) = false ∧
    (S.a_id == S.a_data_sourcepos) = false ∧ (S.a_data_footnotes == S.a_data_sourcepos) = false ∧
    (S.a_data_footnote_ref == S.a_data_sourcepos) = false ∧ (S.a_data_footnote_backref == S.a_data_sourcepos) = false ∧
    (S.a_data_footnote_backref_idx == S.a_data_sourcepos) = false ∧ (S.a_aria_label == S.a_data_sourcepos) = false ∧
    (S.a_aria_hidden == S.a_data_sourcepos) = false ∧ (S.a_align == S.a_data_sourcepos) = false ∧
    (S.a_type == S.a_data_sourcepos) = false ∧ (S.a_checked == S.a_data_sourcepos) = false ∧
    (S.a_disabled == S.a_data_sourcepos) = false ∧ (S.a_lang == S.a_data_sourcepos) = false ∧
    (S.a_data_meta == S.a_data_sourcepos) = false ∧ (S.a_data_math_style == S.a_data_sourcepos) = false ∧
    (S.a_data_wikilink == S.a_data_sourcepos) = false ∧ (S.a_data_escaped_char == S.a_data_sourcepos) = false := by
  decide +kernel

@[simp] theorem ne_a_xmlns : (S.a_xmlns == S.a_data_sourcepos) = false := by decide
@[simp] theorem ne_a_xml_space : (S.a_xml_space == S.a_data_sourcepos) = false := by decide
@[simp] theorem ne_a_sourcepos : (S.a_sourcepos == S.a_data_sourcepos) = false := by decide
@[simp] theorem ne_a_info : (S.a_info == S.a_data_sourcepos) = false := by decide
@[simp] theorem ne_a_level : (S.a_level == S.a_data_sourcepos) = false := by decide
@[simp] theorem ne_a_destination : (S.a_destination == S.a_data_sourcepos) = false := by decide
@[simp] theorem ne_a_tight : (S.a_tight == S.a_data_sourcepos) = false := by decide
@[simp] theorem ne_a_delimiter : (S.a_delimiter == S.a_data_sourcepos) = false := by decide
@[simp] theorem ne_a_label : (S.a_label == S.a_data_sourcepos) = false := by decide
@[simp] theorem ne_a_alert_type : (S.a_alert_type == S.a_data_sourcepos) = false := by decide
@[simp] theorem ne_a_multiline : (S.a_multiline == S.a_data_sourcepos) = false := by decide
@[simp] theorem ne_a_fence_length : (S.a_fence_length == S.a_data_sourcepos) = false := by decide
@[simp] theorem ne_a_fence_offset : (S.a_fence_offset == S.a_data_sourcepos) = false := by decide
@[simp] theorem ne_a_completed : (S.a_completed == S.a_data_sourcepos) = false := by decide
@[simp] theorem ne_a_symbol : (S.a_symbol == S.a_data_sourcepos) = false := by decide
@[simp] theorem ne_a_math_style : (S.a_math_style == S.a_data_sourcepos) = false := by decide
@[simp] theorem ne_a_display : (S.a_display == S.a_data_sourcepos) = false := by decide
@[simp] theorem ne_a_inline : (S.a_inline == S.a_data_sourcepos) = false := by decide
@[simp] theorem ne_a_literal : (S.a_literal == S.a_data_sourcepos) = false := by decide
@[simp] theorem ne_a_bullet : (S.a_bullet == S.a_data_sourcepos) = false := by decide
@[simp] theorem ne_a_ordered : (S.a_ordered == S.a_data_sourcepos) = false := by decide
@[simp] theorem ne_a_period : (S.a_period == S.a_data_sourcepos) = false := by decide
@[simp] theorem ne_a_paren : (S.a_paren == S.a_data_sourcepos) = false := by decide
@[simp] theorem ne_a_name : (S.a_name == S.a_data_sourcepos) = false := by decide
@[simp] theorem eq_a_data_sourcepos : (S.a_data_sourcepos == S.a_data_sourcepos) = true := by decide

def withSp (o : HtmlOpts) (b : Bool) : HtmlOpts := { o with sourcepos := b }

@[simp] theorem withSp_fields (o : HtmlOpts) (b : Bool) :
    (withSp o b).githubPreLang = o.githubPreLang ∧ (withSp o b).fullInfoString = o.fullInfoString ∧
    (withSp o b).escape = o.escape ∧ (withSp o b).unsafe_ = o.unsafe_ ∧ (withSp o b).hardbreaks = o.hardbreaks ∧
    (withSp o b).tasklistClasses = o.tasklistClasses ∧ (withSp o b).figureWithCaption = o.figureWithCaption ∧
    (withSp o b).gfmQuirks = o.gfmQuirks ∧ (withSp o b).escapedCharSpans = o.escapedCharSpans ∧
    (withSp o b).relaxedAutolinks = o.relaxedAutolinks ∧ (withSp o b).tagfilter = o.tagfilter ∧
    (withSp o b).headerIds = o.headerIds ∧ (withSp o b).sourcepos = b := by
  simp [withSp]

@[simp] theorem isSpAttr_mk (n : Bytes) (v : Option (List APart)) :
    isSpAttr ⟨n, v⟩ = (n == S.a_data_sourcepos) := rfl

@[simp] theorem eraseSp_nil : eraseSp [] = [] := rfl
@[simp] theorem eraseSp_cons (t : Tok) (ts : List Tok) : eraseSp (t :: ts) = eraseSpTok t :: eraseSp ts := rfl
@[simp] theorem eraseSp_append (a b : List Tok) : eraseSp (a ++ b) = eraseSp a ++ eraseSp b := by
  simp [eraseSp]

theorem eraseSp_idem (ts : List Tok) : eraseSp (eraseSp ts) = eraseSp ts := by
  simp only [eraseSp, List.map_map]
  congr 1
  funext t
  cases t <;> simp [eraseSpTok, List.filter_filter]

@[simp] theorem eraseSp_ite (c : Prop) [Decidable c] (a b : List Tok) :
    eraseSp (if c then a else b) = if c then eraseSp a else eraseSp b := by
  split <;> rfl

@[simp] theorem filter_ite {α} (p : α → Bool) (c : Prop) [Decidable c] (a b : List α) :
    (if c then a else b).filter p = if c then a.filter p else b.filter p := by
  split <;> rfl

theorem map_erase_id (ts : List Tok) (h : ∀ t ∈ ts, eraseSpTok t = t) : List.map eraseSpTok ts = ts :=
  (List.map_congr_left h).trans (List.map_id ts)

/-- A start tag ends in `>` with or without the attribute. -/
theorem lastLf_eraseTok (c : Bool) (t : Tok) :
    lastLfAfter c (Tok.spell (eraseSpTok t)) = lastLfAfter c (Tok.spell t) := by
  cases t with
  | op n as => simp only [eraseSpTok, Tok.spell, lastLfAfter_append]; rfl
  | vd n as => simp only [eraseSpTok, Tok.spell, lastLfAfter_append]; rfl
  | _ => rfl

/-- `last_was_lf` is set from the last byte written, which erasing an attribute never changes. -/
theorem lastLf_erase (c : Bool) (ts : List Tok) :
    lastLfAfter c (spell (eraseSp ts)) = lastLfAfter c (spell ts) := by
  induction ts generalizing c with
  | nil => rfl
  | cons t r ih => rw [eraseSp_cons, spell_cons, spell_cons, lastLfAfter_append, lastLfAfter_append, lastLf_eraseTok, ih]

@[simp] theorem emit_lastLf (ts : List Tok) (st : St) :
    (W.emit ts st).2.lastLf = lastLfAfter st.lastLf (spell ts) := rfl

theorem putBackref_lastLf (name : Bytes) (total : Nat) (st : St) :
    (putBackref name total st).1.2.lastLf = lastLfAfter st.lastLf (spell (putBackref name total st).1.1) := by
  unfold putBackref
  split <;> rfl

def W.eraseSp (w : W) : W := fun st => (Comrak.eraseSp (w st).1, (w st).2)

@[simp] theorem W.eraseSp_nop : W.eraseSp W.nop = W.nop := rfl

@[simp] theorem W.eraseSp_cr : W.eraseSp W.cr = W.cr := by
  funext st; unfold W.eraseSp W.cr; split <;> rfl

@[simp] theorem W.eraseSp_emit (ts : List Tok) : W.eraseSp (W.emit ts) = W.emit (Comrak.eraseSp ts) := by
  funext st; simp only [W.eraseSp, W.emit, lastLf_erase]

@[simp] theorem W.eraseSp_seq (a b : W) : W.eraseSp (a ⨟ b) = W.eraseSp a ⨟ W.eraseSp b := by
  funext st; simp only [W.eraseSp, W.seq, eraseSp_append]

theorem W.eraseSp_of_fixed (w : W) (h : ∀ st, Comrak.eraseSp (w st).1 = (w st).1) : W.eraseSp w = w :=
  funext fun st => Prod.ext (h st) rfl

@[simp] theorem W.eraseSp_ite (c : Prop) [Decidable c] (a b : W) :
    W.eraseSp (if c then a else b) = if c then W.eraseSp a else W.eraseSp b := by
  split <;> rfl

@[simp] theorem spAttr_off (o : HtmlOpts) (sp : Sp) : spAttr (withSp o false) sp = [] := by
  simp [spAttr, withSp]

@[simp] theorem filter_spAttr (o : HtmlOpts) (sp : Sp) :
    (spAttr (withSp o true) sp).filter (fun a => !isSpAttr a) = [] := by
  simp only [spAttr, withSp]
  by_cases h : sp.sl > 0 <;> simp [h, isSpAttr]

@[simp] theorem mem_spAttr (o : HtmlOpts) (sp : Sp) (a : Attr) (h : a ∈ spAttr (withSp o true) sp) :
    isSpAttr a = true := by
  simp only [spAttr, withSp] at h
  by_cases hs : sp.sl > 0 <;> simp [hs] at h
  subst h; simp

@[simp] theorem htmlBlockToks_withSp (o : HtmlOpts) (b : Bool) (l : Bytes) :
    htmlBlockToks (withSp o b) l = htmlBlockToks o l := rfl
@[simp] theorem htmlInlineToks_withSp (o : HtmlOpts) (b : Bool) (l : Bytes) :
    htmlInlineToks (withSp o b) l = htmlInlineToks o l := rfl
@[simp] theorem urlVal_withSp (o : HtmlOpts) (b : Bool) (u : Bytes) : urlVal (withSp o b) u = urlVal o u := rfl

@[simp] theorem erase_htmlBlockToks (o : HtmlOpts) (l : Bytes) : eraseSp (htmlBlockToks o l) = htmlBlockToks o l := by
  unfold htmlBlockToks; (repeat' split) <;> rfl

@[simp] theorem erase_htmlInlineToks (o : HtmlOpts) (l : Bytes) : eraseSp (htmlInlineToks o l) = htmlInlineToks o l := by
  unfold htmlInlineToks; (repeat' split) <;> rfl

@[simp] theorem filter_alignAttr (al : Align) : (alignAttr al).filter (fun a => !isSpAttr a) = alignAttr al := by
  cases al <;> simp [alignAttr, litAttr]

@[simp] theorem erase_rowSectionToks (h : Bool) (prev : Option NodeValue) :
    eraseSp (rowSectionToks h prev) = rowSectionToks h prev := by
  unfold rowSectionToks; (repeat' split) <;> rfl

@[simp] theorem erase_mathCodeBlockToks (o : HtmlOpts) (sp : Sp) (l : Bytes) :
    eraseSp (mathCodeBlockToks (withSp o true) sp l) = mathCodeBlockToks (withSp o false) sp l := by
  simp [mathCodeBlockToks, eraseSpTok, nl, List.filter_append]

@[simp] theorem filter_codeBlockAttrs (o : HtmlOpts) (info : Bytes) (sp : Sp) :
    List.filter (fun a => !isSpAttr a) (codeBlockAttrs (withSp o true) info sp).1 = (codeBlockAttrs (withSp o false) info sp).1 ∧
    List.filter (fun a => !isSpAttr a) (codeBlockAttrs (withSp o true) info sp).2 = (codeBlockAttrs (withSp o false) info sp).2 := by
  simp [codeBlockAttrs, List.filter_append]

@[simp] theorem erase_backrefToks (name : Bytes) (ix k n : Nat) :
    eraseSp (backrefToks name ix k n) = backrefToks name ix k n := by
  induction k generalizing n with
  | zero => rfl
  | succ k ih =>
    simp only [backrefToks, eraseSp_append, ih]
    split <;> simp [eraseSpTok, litAttr]

@[simp] theorem erase_putBackref (name : Bytes) (total : Nat) (st : St) :
    eraseSp (putBackref name total st).1.1 = (putBackref name total st).1.1 := by
  unfold putBackref; split <;> simp

theorem enter_withSp (o : HtmlOpts) (nt : NormTable) (cx : Ctx) (v : NodeValue) (sp : Sp) (cs : Forest) :
    W.eraseSp (enter (withSp o true) nt cx v sp cs) = enter (withSp o false) nt cx v sp cs := by
  cases v <;> dsimp only [enter]
  case list l => cases l.ty <;> simp [eraseSpTok, List.filter_append, litAttr, nl]
  case heading level setext =>
    cases h : o.headerIds <;> simp [h, eraseSpTok]
    -- the anchor is written without a position and changes `anchors` only
    rw [W.eraseSp_of_fixed (fun st => W.emit _ _) fun st => rfl]
  case footnoteDefinition name total =>
    -- the writer is a function of the state it starts from: fix that state
    funext st
    show W.eraseSp (_ ⨟ _ ⨟ _) st = _
    rw [W.eraseSp_seq, W.eraseSp_seq, W.eraseSp_of_fixed (fun s => ([], _)) (fun _ => rfl)]
    simp [eraseSpTok, List.filter_append, litAttr, nl]
  case alert ty title m fl fo => cases title <;> simp [eraseSpTok, litAttr, nl]
  all_goals simp [eraseSpTok, List.filter_append, litAttr, nl]

theorem exit_withSp (o : HtmlOpts) (b : Bool) (cx : Ctx) (v : NodeValue) (cs : Forest) :
    exit (withSp o b) cx v cs = exit o cx v cs :=
  rfl

theorem exit_fixed (o : HtmlOpts) (cx : Ctx) (v : NodeValue) (cs : Forest) :
    W.eraseSp (exit o cx v cs) = exit o cx v cs := by
  cases v <;> dsimp only [exit]
  case paragraph =>
    simp only [W.eraseSp_ite, W.eraseSp_seq, W.eraseSp_nop]
    -- `</p>` carries no attribute; before it only the back-links of a footnote can stand
    congr 2
    split
    · simp [eraseSpTok, W.eraseSp_of_fixed (fun st => (putBackref _ _ st).1)]
    · rfl
  case footnoteDefinition name total =>
    funext st
    show W.eraseSp (_ ⨟ _ ⨟ _) st = _
    rw [W.eraseSp_seq, W.eraseSp_seq, W.eraseSp_of_fixed (fun _ => _) (fun _ => erase_putBackref name total st)]
    simp [eraseSpTok, nl]
  case list l => cases l.ty <;> rfl
  all_goals simp [eraseSpTok, nl]

end Comrak
