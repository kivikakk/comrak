/-
C06 helper lemmas: the rule-of-three family on which `process_emphasis` was quadratic before /repo commit 9704a60
(`openers_bottom` was not raised after a failed search during which the rule of three skipped a candidate;
`emLoop false` is that old loop).
-/
import Comrak.Lemmas.CostEmph
namespace Comrak.Cost
open Comrak

/-- `**` that can only open (`" **b"`). -/
def D2 (p : Nat) : Delim := ⟨0x2A, 2, 2, true, false, p⟩
/-- `*` that can open and close (`"b*a"`). -/
def D1 (p : Nat) : Delim := ⟨0x2A, 1, 1, true, true, p⟩

/-- The delimiter list of `"**b*a "` repeated `2 m` times, positions from `p`. -/
def emFam : Nat → Nat → List Delim
  | _, 0 => []
  | p, m + 1 => D2 p :: D1 (p + 1) :: D2 (p + 2) :: D1 (p + 3) :: emFam (p + 4) m

def isD2 (d : Delim) : Prop := d.ch = 0x2A ∧ d.len = 2 ∧ d.cur = 2 ∧ d.canOpen = true ∧ d.canClose = false

/-- Steps of the old loop on `emFam _ m` entered with `k` unmatched `**` openers below. -/
def qcost : Nat → Nat → Nat
  | _, 0 => 0
  | k, m + 1 => (k + 7) + qcost (k + 1) m

theorem emSearch_allD2 (q : Nat) : ∀ L : List Delim, (∀ d ∈ L, isD2 d) →
    (emSearch (D1 q) 0 L).cost = L.length ∧ (emSearch (D1 q) 0 L).hit = none ∧
    (L ≠ [] → (emSearch (D1 q) 0 L).mod3 = true)
  | [], _ => by simp [emSearch]
  | d :: L, h => by
    obtain ⟨h1, h2, h3⟩ := emSearch_allD2 q L (fun x hx => h x (by simp [hx]))
    obtain ⟨a1, a2, a3, a4, a5⟩ := h d (by simp)
    simp [emSearch, D1, oddMatch, a1, a2, a4, a5] at h1 h2 ⊢
    exact ⟨h1, h2⟩

theorem emLoop_fam (m : Nat) : ∀ (fuel : Nat) (bot : Nat → Nat) (L : List Delim) (p : Nat),
    4 * m ≤ fuel → bot 10 = 0 → (∀ d ∈ L, isD2 d) →
    emLoop false fuel bot L (emFam p m) = some (qcost L.length m) := by
  induction m with
  | zero => intro fuel bot L p _ _ _; simp [emFam, emLoop, qcost]
  | succ m ih =>
    intro fuel bot L p hf hb hL
    obtain ⟨f, rfl⟩ : ∃ f, fuel = f + 4 := ⟨fuel - 4, by omega⟩
    have hL' : ∀ d ∈ D2 p :: L, isD2 d := by simpa [isD2, D2] using hL
    -- the `*` closer at `p + 1` walks over all the `**` openers (rule of three) and fails, `openers_bottom` is not
    -- updated; the one at `p + 3` finds the `*` two below
    obtain ⟨s1, s2, s3⟩ := emSearch_allD2 (p + 1) (D2 p :: L) hL'
    have s3 := s3 (by simp)
    have s4 : emSearch (D1 (p + 3)) 0 (D2 (p + 2) :: D1 (p + 1) :: D2 p :: L)
        = ⟨2, true, some (D1 (p + 1), D2 p :: L)⟩ := by
      simp [emSearch, D1, D2, oddMatch]
    have ih' := ih f bot (D2 p :: L) (p + 4) (by omega) hb hL'
    simp only [D1, D2] at s1 s2 s3 s4 ih'
    simp [emFam, qcost, emLoop, D1, D2, bottomIx, bottomIxOld, hb, s1, s2, s3, s4, alwaysRaise, tildeExit, shrink, useChars, ih']
    omega

theorem qcost_ge : ∀ m k, m * m + 13 * m + 2 * (k * m) ≤ 2 * qcost k m
  | 0, k => by simp [qcost]
  | m + 1, k => by
    have ih := qcost_ge m (k + 1)
    simp only [qcost, Nat.mul_add, Nat.add_mul, Nat.mul_one, Nat.one_mul] at ih ⊢
    omega

theorem emFam_length : ∀ m p, (emFam p m).length = 4 * m ∧ sumCur (emFam p m) = 6 * m
  | 0, _ => by simp [emFam, sumCur]
  | m + 1, p => by
    obtain ⟨h1, h2⟩ := emFam_length m (p + 4)
    simp only [emFam, List.length_cons, sumCur, D1, D2, h1, h2]
    omega

theorem emFam_sorted : ∀ m p, (emFam p m).Pairwise (fun a b => a.pos < b.pos) ∧ ∀ d ∈ emFam p m, p ≤ d.pos
  | 0, _ => by simp [emFam]
  | m + 1, p => by
    obtain ⟨ih1, ih2⟩ := emFam_sorted m (p + 4)
    simp only [emFam, List.pairwise_cons, List.mem_cons, forall_eq_or_imp, D1, D2]
    and_intros
    all_goals first | omega | exact ih1 | (intro a ha; have := ih2 a ha; omega)

theorem emFam_star : ∀ m p, ∀ d ∈ emFam p m, d.ch = 0x2A
  | 0, _ => by simp [emFam]
  | m + 1, p => by
    have ih := emFam_star m (p + 4)
    simp only [emFam, List.mem_cons, forall_eq_or_imp, D1, D2]
    exact ⟨trivial, trivial, trivial, trivial, ih⟩

end Comrak.Cost
