/-
Which tag names a node writes.  `namesOk p q` tests the name of every start tag with `p` and of every
self-closed tag with `q`; the tokens of one node pass as soon as `p` and `q` hold on the renderer's fixed
vocabulary (`NamesOk`): "void elements are self-closed and nothing else is", "no `<section>` outside the
footnote list", "no `<thead>`/`<tbody>` outside a table row" are instances.  `renderT_all` lifts a per-node
fact `all P` to trees.
-/
import Comrak.Lemmas.HtmlTree
namespace Comrak
open Bytes

/-- `P` holds off start tags, self-closed tags and `cmt`: all that `exit` writes, apart from `<figcaption>` and
    the footnote back references. -/
structure OffTags (P : Tok → Bool) : Prop where
  cl : ∀ n, P (.cl n) = true
  txt : ∀ v, P (.txt v) = true
  lit : ∀ v, P (.lit v) = true
  raw : ∀ v, P (.raw v) = true

section Exit
variable {P : Tok → Bool}

theorem cr_all (hP : OffTags P) (st : St) : (W.cr st).1.all P = true := by
  unfold W.cr; split
  · rfl
  · simp only [all_toks, hP.lit]

theorem putBackref_all (hb : ∀ name ix k n, (backrefToks name ix k n).all P = true) (name : Bytes) (total : Nat)
    (st : St) : (putBackref name total st).1.1.all P = true := by
  unfold putBackref; split
  · rfl
  · exact hb ..

theorem exit_all (hP : OffTags P) (hfig : P (.op S.t_figcaption []) = true)
    (hb : ∀ name ix k n, (backrefToks name ix k n).all P = true)
    (o : HtmlOpts) (cx : Ctx) (v : NodeValue) (cs : Forest) (st : St) : (exit o cx v cs st).1.all P = true := by
  cases v
  all_goals dsimp only [exit]
  case paragraph =>
    split
    · rfl
    · -- only the last paragraph of a footnote definition writes more than `</p>`: the back references
      split <;> simp only [all_toks, hP.cl, hP.lit, putBackref_all hb]
  case footnoteDefinition name total => simp only [all_toks, hP.cl, hP.lit, putBackref_all hb]
  case list l => cases l.ty <;> simp only [all_toks, hP.cl, hP.lit]
  all_goals simp only [all_toks, hP.cl, hP.lit, hP.txt, hP.raw, cr_all hP, hfig]

end Exit

def namesOk (p q : Bytes → Bool) : Tok → Bool
  | .op n _ => p n
  | .vd n _ => q n
  | _ => true

/-- The start tags any node may write, apart from `<h1>`.. and the three that a single node kind writes
    (`<section>`: footnote definition, `<thead>` / `<tbody>`: table row). -/
def startNames : List Bytes :=
  [S.t_blockquote, S.t_code, S.t_pre, S.t_em, S.t_a, S.t_figure, S.t_figcaption, S.t_li, S.t_ul, S.t_ol, S.t_p,
   S.t_strong, S.t_sup, S.t_del, S.t_table, S.t_tr, S.t_th, S.t_td, S.t_div, S.t_dd, S.t_dl, S.t_dt, S.t_span,
   S.t_sub, S.t_u]

structure NamesOk (p q : Bytes → Bool) : Prop where
  start : startNames.all p = true
  heading : ∀ level, p (headingName level) = true
  void : voidNames.all q = true

variable {p q : Bytes → Bool}

/-- The single facts `p S.t_blockquote = true ∧ ...`, in the form `simp only` takes as rewrite rules. -/
theorem NamesOk.start_each (H : NamesOk p q) :
    p S.t_blockquote = true ∧ p S.t_code = true ∧ p S.t_pre = true ∧ p S.t_em = true ∧ p S.t_a = true ∧
    p S.t_figure = true ∧ p S.t_figcaption = true ∧ p S.t_li = true ∧ p S.t_ul = true ∧ p S.t_ol = true ∧
    p S.t_p = true ∧ p S.t_strong = true ∧ p S.t_sup = true ∧ p S.t_del = true ∧ p S.t_table = true ∧
    p S.t_tr = true ∧ p S.t_th = true ∧ p S.t_td = true ∧ p S.t_div = true ∧ p S.t_dd = true ∧
    p S.t_dl = true ∧ p S.t_dt = true ∧ p S.t_span = true ∧ p S.t_sub = true ∧ p S.t_u = true := by
  simpa only [startNames, List.all_cons, List.all_nil, Bool.and_true, Bool.and_eq_true] using H.start

theorem NamesOk.void_each (H : NamesOk p q) :
    q S.t_br = true ∧ q S.t_hr = true ∧ q S.t_img = true ∧ q S.t_input = true := by
  simpa only [voidNames, List.all_cons, List.all_nil, Bool.and_true, Bool.and_eq_true] using H.void

theorem namesOk_offTags : OffTags (namesOk p q) := ⟨fun _ => rfl, fun _ => rfl, fun _ => rfl, fun _ => rfl⟩

theorem namesOk_cr (st : St) : (W.cr st).1.all (namesOk p q) = true := cr_all namesOk_offTags st

/-- `<section>` is written by a footnote definition only, `<thead>` / `<tbody>` by a table row only. -/
theorem enter_namesOk (H : NamesOk p q) (o : HtmlOpts) (nt : NormTable) (cx : Ctx) (v : NodeValue) (sp : Sp)
    (cs : Forest) (st : St) (hsec : isDef v = true → p S.t_section = true)
    (hrow : isRow v = true → p S.t_thead = true ∧ p S.t_tbody = true) :
    (enter o nt cx v sp cs st).1.all (namesOk p q) = true := by
  have hs := H.start_each
  have hq := H.void_each
  have hh := H.heading
  cases v
  case footnoteDefinition name total =>
    have := hsec rfl
    simp only [enter, all_toks, namesOk, this, hs]
  case tableRow header =>
    have := hrow rfl
    simp only [enter, rowSectionToks, all_toks, namesOk, namesOk_cr, hs, this]
    (repeat' split) <;> simp only [all_toks, namesOk, this]
  all_goals clear hsec hrow
  all_goals dsimp only [enter]
  case list l => cases l.ty <;> simp only [all_toks, namesOk, namesOk_cr, hs]
  case heading level setext => cases o.headerIds <;> simp only [all_toks, namesOk, namesOk_cr, hs, hh]
  case alert ty title m fl fo => cases title <;> simp only [all_toks, namesOk, namesOk_cr, hs]
  all_goals simp only [all_toks, namesOk, namesOk_cr, htmlBlockToks, htmlInlineToks,
    mathCodeBlockToks, apply_ite p, hs, hq]

theorem namesOk_backrefToks (H : NamesOk p q) (name : Bytes) (ix k n : Nat) :
    (backrefToks name ix k n).all (namesOk p q) = true := by
  have hs := H.start_each
  induction k generalizing n with
  | zero => rfl
  | succ k ih =>
    simp only [backrefToks, List.all_append, ih, Bool.and_true]
    split <;> simp only [all_toks, namesOk, hs]

theorem exit_namesOk (H : NamesOk p q) (o : HtmlOpts) (cx : Ctx) (v : NodeValue) (cs : Forest) (st : St) :
    (exit o cx v cs st).1.all (namesOk p q) = true :=
  exit_all namesOk_offTags (List.all_eq_true.mp H.start S.t_figcaption (by decide)) (namesOk_backrefToks H) o cx v cs st

section Tree
variable {P : Tok → Bool} {o : HtmlOpts} {nt : NormTable}
  {N : NodeValue → Prop} {T : Tree → Prop} {F : Forest → Prop}

/- "All nodes have `N`" is given by any pair of predicates `T`, `F` on trees and forests that unfold as `hT`,
   `hF` say: a Boolean check such as `treeSafe` / `forestSafe`, or `fun _ => True`. -/
mutual
theorem renderT_all (hT : ∀ v sp cs, T (.node v sp cs) → N v ∧ F cs) (hF : ∀ t ts, F (.cons t ts) → T t ∧ F ts)
    (he : ∀ cx v sp cs st, N v → (enter o nt cx v sp cs st).1.all P = true)
    (hx : ∀ cx v cs st, N v → (exit o cx v cs st).1.all P = true) :
    ∀ (t : Tree) (cx : Ctx) (st : St), T t → (renderT o nt cx t st).1.all P = true
  | .node v sp cs, cx, st, h => by
    obtain ⟨hv, hcs⟩ := hT v sp cs h
    rw [renderT_node]
    simp only [List.all_append, Bool.and_eq_true]
    refine ⟨⟨he cx v sp cs st hv, ?_⟩, hx cx v cs _ hv⟩
    split
    · exact renderF_all hT hF he hx cs _ _ _ _ _ hcs
    · rfl
theorem renderF_all (hT : ∀ v sp cs, T (.node v sp cs) → N v ∧ F cs) (hF : ∀ t ts, F (.cons t ts) → T t ∧ F ts)
    (he : ∀ cx v sp cs st, N v → (enter o nt cx v sp cs st).1.all P = true)
    (hx : ∀ cx v cs st, N v → (exit o cx v cs st).1.all P = true) :
    ∀ (f : Forest) (parent grand prev : Option NodeValue) (idx : Nat) (st : St),
      F f → (renderF o nt parent grand prev idx f st).1.all P = true
  | .nil, _, _, _, _, _, _ => rfl
  | .cons t ts, parent, grand, prev, idx, st, h => by
    obtain ⟨ht, hts⟩ := hF t ts h
    rw [renderF_cons]
    simp only [List.all_append, Bool.and_eq_true]
    exact ⟨renderT_all hT hF he hx t _ st ht, renderF_all hT hF he hx ts _ _ _ _ _ hts⟩
end

theorem renderToks_all (hT : ∀ v sp cs, T (.node v sp cs) → N v ∧ F cs) (hF : ∀ t ts, F (.cons t ts) → T t ∧ F ts)
    (he : ∀ cx v sp cs st, N v → (enter o nt cx v sp cs st).1.all P = true)
    (hx : ∀ cx v cs st, N v → (exit o cx v cs st).1.all P = true)
    (hfin : [Tok.cl S.t_ol, nl, .cl S.t_section, nl].all P = true) (t : Tree) (ht : T t) :
    (renderToks o nt t).all P = true := by
  unfold renderToks
  simp only [W.seq_fst, List.all_append, Bool.and_eq_true]
  refine ⟨renderT_all hT hF he hx t {} {} ht, ?_⟩
  unfold finish
  split
  · exact hfin
  · rfl

theorem renderF_all_of_nodes (he : ∀ cx v sp cs st, (enter o nt cx v sp cs st).1.all P = true)
    (hx : ∀ cx v cs st, (exit o cx v cs st).1.all P = true)
    (f : Forest) (parent grand prev : Option NodeValue) (idx : Nat) (st : St) :
    (renderF o nt parent grand prev idx f st).1.all P = true :=
  renderF_all (N := fun _ => True) (T := fun _ => True) (F := fun _ => True)
    (fun _ _ _ _ => ⟨trivial, trivial⟩) (fun _ _ _ => ⟨trivial, trivial⟩)
    (fun cx v sp cs st _ => he cx v sp cs st) (fun cx v cs st _ => hx cx v cs st) f parent grand prev idx st trivial

theorem renderToks_all_of_nodes (he : ∀ cx v sp cs st, (enter o nt cx v sp cs st).1.all P = true)
    (hx : ∀ cx v cs st, (exit o cx v cs st).1.all P = true)
    (hfin : [Tok.cl S.t_ol, nl, .cl S.t_section, nl].all P = true) (t : Tree) :
    (renderToks o nt t).all P = true :=
  renderToks_all (N := fun _ => True) (T := fun _ => True) (F := fun _ => True)
    (fun _ _ _ _ => ⟨trivial, trivial⟩) (fun _ _ _ => ⟨trivial, trivial⟩)
    (fun cx v sp cs st _ => he cx v sp cs st) (fun cx v cs st _ => hx cx v cs st) hfin t trivial

end Tree

end Comrak
