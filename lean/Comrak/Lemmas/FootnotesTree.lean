/-
C15 (footnotes): the numbering walk over a tree is the run of Lemmas/FootnotesKeys.lean over its resolved keys and
changes nothing else an observer of definitions sees; stripping and re-attaching only moves definitions.
-/
import Comrak.Lemmas.FootnotesKeys
namespace Comrak
open Bytes

mutual
/-- Folded labels of the resolvable reference nodes, in walk order (not below a reference node). -/
def resKeysT (N : LabelNorm) (D : DefTab) : Tree → List Bytes
  | .node v _ cs =>
    match v with
    | .footnoteReference name _ _ => if (D.get? (N.fold name)).isSome then [N.fold name] else []
    | _ => resKeysF N D cs
def resKeysF (N : LabelNorm) (D : DefTab) : Forest → List Bytes
  | .nil => []
  | .cons t ts => resKeysT N D t ++ resKeysF N D ts
end

def innerRefs (t : Tree) : List (Bytes × Nat × Nat) := allRefsF t.children
def innerDefs (t : Tree) : List (Bytes × Nat) := allDefsF t.children

theorem emitKeys_isEmpty (D : DefTab) (st : NSt) (ks : List Bytes) :
    (emitKeys D st ks).isEmpty = ks.isEmpty := by
  cases ks <;> simp [emitKeys]

theorem stepRef_none {N : LabelNorm} {D : DefTab} {label : Bytes} (st : NSt) (h : D.get? (N.fold label) = none) :
    stepRef N D st label = (.text ([0x5B, 0x5E] ++ label ++ [0x5D]), st) := by
  simp only [stepRef, h]

theorem stepRef_some {N : LabelNorm} {D : DefTab} {label : Bytes} {d : DefSlot} (st : NSt)
    (h : D.get? (N.fold label) = some d) :
    stepRef N D st label =
      (.footnoteReference d.name ((stepKey st (N.fold label)).hist.count (N.fold label))
        ((stepKey st (N.fold label)).seen.idxOf (N.fold label) + 1), stepKey st (N.fold label)) := by
  simp only [stepRef, h, stepKey]

mutual
theorem numberT_keys (N : LabelNorm) (D : DefTab) : ∀ (t : Tree) (st : NSt), leafRefsT t = true →
    (numberT N D t st).2 = runKeys st (resKeysT N D t) ∧
    allRefsT (numberT N D t st).1 = emitKeys D st (resKeysT N D t)
  | .node v sp cs, st, h => by
    rcases v.ref_or_not with ⟨name, rn, ix, rfl⟩ | hv
    · cases Forest.eq_nil_of_isNil h
      simp only [numberT, resKeysT]
      cases hD : D.get? (N.fold name) with
      | none => rw [stepRef_none st hD]; exact ⟨rfl, rfl⟩
      | some d =>
        rw [stepRef_some st hD]
        simp only [allRefsT, Option.isSome_some, if_true, runKeys, emitKeys, nameOf, hD, and_self]
    · simp only [leafRefsT] at h
      simp only [numberT, allRefsT, resKeysT]
      exact numberF_keys N D cs st h
theorem numberF_keys (N : LabelNorm) (D : DefTab) : ∀ (f : Forest) (st : NSt), leafRefsF f = true →
    (numberF N D f st).2 = runKeys st (resKeysF N D f) ∧
    allRefsF (numberF N D f st).1 = emitKeys D st (resKeysF N D f)
  | .nil, st, _ => ⟨rfl, rfl⟩
  | .cons t ts, st, h => by
    simp only [leafRefsF, Bool.and_eq_true] at h
    have h1 := numberT_keys N D t st h.1
    have h2 := numberF_keys N D ts (numberT N D t st).2 h.2
    simp only [numberF, resKeysF, allRefsF, runKeys_append, emitKeys_append]
    rw [h2.1, h2.2, h1.1, h1.2]
    exact ⟨rfl, rfl⟩
end

theorem numberT_order (N : LabelNorm) (D : DefTab) : ∀ (t : Tree) (st : NSt) (rest : List Nat),
    leafRefsT t = true →
    firstRefOrder st.seen.length (ixsOf (allRefsT (numberT N D t st).1) ++ rest)
      = firstRefOrder (numberT N D t st).2.seen.length rest := by
  intro t st rest h
  rw [(numberT_keys N D t st h).1, (numberT_keys N D t st h).2]
  exact emitKeys_order D _ st rest

mutual
theorem numberT_leaf (N : LabelNorm) (D : DefTab) : ∀ (t : Tree) (st : NSt), leafRefsT t = true →
    leafRefsT (numberT N D t st).1 = true
  | .node v sp cs, st, h => by
    rcases v.ref_or_not with ⟨name, rn, ix, rfl⟩ | hv
    · cases Forest.eq_nil_of_isNil h
      simp only [numberT]
      cases hD : D.get? (N.fold name) with
      | none => rw [stepRef_none st hD]; rfl
      | some d => rw [stepRef_some st hD]; rfl
    · simp only [leafRefsT] at h
      simp only [numberT, leafRefsT]
      exact numberF_leaf N D cs st h
theorem numberF_leaf (N : LabelNorm) (D : DefTab) : ∀ (f : Forest) (st : NSt), leafRefsF f = true →
    leafRefsF (numberF N D f st).1 = true
  | .nil, st, _ => rfl
  | .cons t ts, st, h => by
    simp only [leafRefsF, Bool.and_eq_true] at h
    simp only [numberF, leafRefsF, Bool.and_eq_true]
    exact ⟨numberT_leaf N D t st h.1, numberF_leaf N D ts _ h.2⟩
end

theorem stepRef_not_def (N : LabelNorm) (D : DefTab) (st : NSt) (label : Bytes) :
    ∀ name total, (stepRef N D st label).1 = .footnoteDefinition name total → False := by
  intro name total
  cases hD : D.get? (N.fold label) with
  | none => rw [stepRef_none st hD]; exact fun e => nomatch e
  | some d => rw [stepRef_some st hD]; exact fun e => nomatch e

mutual
theorem numberT_defs (N : LabelNorm) (D : DefTab) : ∀ (t : Tree) (st : NSt),
    allDefsT (numberT N D t st).1 = allDefsT t
  | .node v sp cs, st => by
    rcases v.ref_or_not with ⟨name, rn, ix, rfl⟩ | hv
    · -- `this` is the side condition of the equation of `allDefsT` at the rewritten node
      have := stepRef_not_def N D st name
      simp only [numberT, allDefsT]
    · simp only [numberT, allDefsT]
      rw [numberF_defs N D cs st]
theorem numberF_defs (N : LabelNorm) (D : DefTab) : ∀ (f : Forest) (st : NSt),
    allDefsF (numberF N D f st).1 = allDefsF f
  | .nil, st => rfl
  | .cons t ts, st => by
    simp only [numberF, allDefsF]
    rw [numberT_defs N D t st, numberF_defs N D ts _]
end

/-! ### The outermost definitions before and after numbering correspond position by position -/
mutual
theorem numberT_outerA (N : LabelNorm) (D : DefTab) : ∀ (t : Tree) (st : NSt),
    (outerDefsT (numberT N D t st).1).map (fun d => (defLabel d, innerDefs d))
      = (outerDefsT t).map (fun d => (defLabel d, innerDefs d))
  | .node v sp cs, st => by
    rcases v.ref_or_not with ⟨name, rn, ix, rfl⟩ | hv
    · have := stepRef_not_def N D st name
      simp only [numberT, outerDefsT]
    · rcases v.def_or_not with ⟨name, total, rfl⟩ | hd
      · simp only [numberT, outerDefsT, List.map_cons, List.map_nil, defLabel, innerDefs, Tree.children,
          numberF_defs]
      · simp only [numberT, outerDefsT]
        exact numberF_outerA N D cs st
theorem numberF_outerA (N : LabelNorm) (D : DefTab) : ∀ (f : Forest) (st : NSt),
    (outerDefsF (numberF N D f st).1).map (fun d => (defLabel d, innerDefs d))
      = (outerDefsF f).map (fun d => (defLabel d, innerDefs d))
  | .nil, st => rfl
  | .cons t ts, st => by
    simp only [numberF, outerDefsF, List.map_append]
    rw [numberT_outerA N D t st, numberF_outerA N D ts _]
end

mutual
theorem numberT_outerB (N : LabelNorm) (D : DefTab) : ∀ (t : Tree) (st : NSt), leafRefsT t = true →
    (outerDefsT (numberT N D t st).1).map (fun d => (innerRefs d).isEmpty)
      = (outerDefsT t).map (fun d => (resKeysF N D d.children).isEmpty)
  | .node v sp cs, st, h => by
    rcases v.ref_or_not with ⟨name, rn, ix, rfl⟩ | hv
    · cases Forest.eq_nil_of_isNil h
      have := stepRef_not_def N D st name
      simp only [numberT, outerDefsT]
      rfl
    · simp only [leafRefsT] at h
      rcases v.def_or_not with ⟨name, total, rfl⟩ | hd
      · simp only [numberT, outerDefsT, List.map_cons, List.map_nil, innerRefs, Tree.children,
          (numberF_keys N D cs st h).2, emitKeys_isEmpty]
      · simp only [numberT, outerDefsT]
        exact numberF_outerB N D cs st h
theorem numberF_outerB (N : LabelNorm) (D : DefTab) : ∀ (f : Forest) (st : NSt), leafRefsF f = true →
    (outerDefsF (numberF N D f st).1).map (fun d => (innerRefs d).isEmpty)
      = (outerDefsF f).map (fun d => (resKeysF N D d.children).isEmpty)
  | .nil, st, _ => rfl
  | .cons t ts, st, h => by
    simp only [leafRefsF, Bool.and_eq_true] at h
    simp only [numberF, outerDefsF, List.map_append]
    rw [numberT_outerB N D t st h.1, numberF_outerB N D ts _ h.2]
end

theorem stripF_cons_other (v : NodeValue) (sp : Sp) (cs ts : Forest)
    (hd : ∀ name total, v = .footnoteDefinition name total → False) :
    stripF (.cons (.node v sp cs) ts) = .cons (.node v sp (stripF cs)) (stripF ts) := by
  rw [stripF, stripT]
  intro name total sp' cs' e
  injection e with e
  exact hd name total e

mutual
theorem stripT_refs : ∀ (t : Tree), leafRefsT t = true → isDefValue t.value = false →
    (allRefsT t).Perm (allRefsT (stripT t) ++ (outerDefsT t).flatMap innerRefs)
  | .node v sp cs, h, hv => by
    rcases v.ref_or_not with ⟨name, rn, ix, rfl⟩ | hr
    · cases Forest.eq_nil_of_isNil h
      simp [allRefsT, stripT, stripF, outerDefsT, outerDefsF]
    · have hd : ∀ name total, v = .footnoteDefinition name total → False := isDefValue_eq_false.mp hv
      simp only [leafRefsT] at h
      simp only [allRefsT, stripT, outerDefsT]
      exact stripF_refs cs h
theorem stripF_refs : ∀ (f : Forest), leafRefsF f = true →
    (allRefsF f).Perm (allRefsF (stripF f) ++ (outerDefsF f).flatMap innerRefs)
  | .nil, _ => .refl _
  | .cons (.node v sp cs) ts, h => by
    simp only [leafRefsF, Bool.and_eq_true] at h
    have hF := stripF_refs ts h.2
    rcases v.def_or_not with ⟨name, total, rfl⟩ | hd
    · simp only [stripF, allRefsF, allRefsT, outerDefsF, outerDefsT, List.flatMap_append, List.flatMap_cons,
        List.flatMap_nil, List.append_nil, innerRefs, Tree.children]
      exact (List.Perm.append_left _ hF).trans (List.perm_append_comm_assoc _ _ _)
    · have hT := stripT_refs (.node v sp cs) h.1 (isDefValue_eq_false.mpr hd)
      rw [stripT] at hT
      rw [stripF_cons_other v sp cs ts hd]
      simp only [allRefsF, outerDefsF, List.flatMap_append, List.append_assoc]
      exact (hT.append hF).trans (by
        simpa only [List.append_assoc] using (List.perm_append_comm_assoc _ _ _).append_left _)
end

theorem stripF_noDefs : ∀ (f : Forest), allDefsF (stripF f) = []
  | .nil => rfl
  | .cons (.node v sp cs) ts => by
    rcases v.def_or_not with ⟨name, total, rfl⟩ | hd
    · simp only [stripF]; exact stripF_noDefs ts
    · rw [stripF_cons_other v sp cs ts hd]
      simp only [allDefsF, allDefsT, List.nil_append]
      rw [stripF_noDefs cs, stripF_noDefs ts]
      rfl

theorem stripT_noDefs : ∀ (t : Tree), isDefValue t.value = false → allDefsT (stripT t) = []
  | .node v sp cs, hv => by
    have hd : ∀ name total, v = .footnoteDefinition name total → False := isDefValue_eq_false.mp hv
    simp only [stripT, allDefsT, List.nil_append]
    exact stripF_noDefs cs

/-- `(name, total)` of a definition node; what `rootDefs` collects from the root's children. -/
def defInfo : Tree → Option (Bytes × Nat)
  | .node (.footnoteDefinition name total) _ _ => some (name, total)
  | _ => none

theorem rootDefs_eq (v : NodeValue) (sp : Sp) (cs : Forest) :
    rootDefs (.node v sp cs) = cs.toList.filterMap defInfo := rfl

theorem defInfo_other (v : NodeValue) (sp : Sp) (cs : Forest)
    (hd : ∀ name total, v = .footnoteDefinition name total → False) : defInfo (.node v sp cs) = none := by
  rw [defInfo]
  intro name total sp' cs' e
  injection e with e
  exact hd name total e

theorem stripF_top : ∀ (f : Forest), (stripF f).toList.filterMap defInfo = []
  | .nil => rfl
  | .cons (.node v sp cs) ts => by
    rcases v.def_or_not with ⟨name, total, rfl⟩ | hd
    · simp only [stripF]; exact stripF_top ts
    · rw [stripF_cons_other v sp cs ts hd, Forest.toList, List.filterMap_cons, defInfo_other v sp _ hd]
      exact stripF_top ts

theorem allRefsF_append : ∀ (a b : Forest), allRefsF (a.append b) = allRefsF a ++ allRefsF b
  | .nil, b => rfl
  | .cons t ts, b => by simp [Forest.append, allRefsF, allRefsF_append ts b]
theorem allDefsF_append : ∀ (a b : Forest), allDefsF (a.append b) = allDefsF a ++ allDefsF b
  | .nil, b => rfl
  | .cons t ts, b => by simp [Forest.append, allDefsF, allDefsF_append ts b]
theorem toList_append : ∀ (a b : Forest), (a.append b).toList = a.toList ++ b.toList
  | .nil, b => rfl
  | .cons t ts, b => by simp [Forest.append, Forest.toList, toList_append ts b]
theorem allRefsF_ofList (l : List Tree) : allRefsF (Forest.ofList l) = l.flatMap allRefsT := by
  induction l with
  | nil => rfl
  | cons t ts ih => simp [Forest.ofList, allRefsF, ih]
theorem allDefsF_ofList (l : List Tree) : allDefsF (Forest.ofList l) = l.flatMap allDefsT := by
  induction l with
  | nil => rfl
  | cons t ts ih => simp [Forest.ofList, allDefsF, ih]
theorem toList_ofList (l : List Tree) : (Forest.ofList l).toList = l := by
  induction l with
  | nil => rfl
  | cons t ts ih => simp [Forest.ofList, Forest.toList, ih]

theorem allRefsT_setDef (n : Bytes) (c : Nat) (t : Tree) : allRefsT (setDef n c t) = innerRefs t := by
  cases t with
  | node v sp cs => simp [setDef, allRefsT, innerRefs, Tree.children]
theorem allDefsT_setDef (n : Bytes) (c : Nat) (t : Tree) : allDefsT (setDef n c t) = (n, c) :: innerDefs t := by
  cases t with
  | node v sp cs => simp [setDef, allDefsT, innerDefs, Tree.children]
theorem defInfo_setDef (n : Bytes) (c : Nat) (t : Tree) : defInfo (setDef n c t) = some (n, c) := by
  cases t with
  | node v sp cs => simp [setDef, defInfo]

theorem buildTab_slot (N : LabelNorm) (ds : List Tree) (i : Nat) (D0 : DefTab) (s : DefSlot)
    (h : s ∈ buildTab N i ds D0) :
    s ∈ D0 ∨ ∃ j d, ds[j]? = some d ∧ s = ⟨N.fold (defLabel d), N.keep (defLabel d), i + j⟩ := by
  fun_induction buildTab N i ds D0 with
  | case1 => exact .inl h
  | case2 i d ds D ih =>
    rcases ih h with h1 | ⟨j, d', hj, hs⟩
    · rcases List.mem_append.mp h1 with h1 | h1
      · exact .inl (List.mem_filter.mp h1).1
      · exact .inr ⟨0, d, rfl, List.mem_singleton.mp h1⟩
    · exact .inr ⟨j + 1, d', hj, by rw [hs, Nat.add_assoc, Nat.add_comm 1]⟩

theorem getSlot (N : LabelNorm) (outer : List Tree) (k : Bytes) (s : DefSlot)
    (h : (buildTab N 0 outer []).get? k = some s) :
    ∃ d, outer[s.pos]? = some d ∧ k = N.fold (defLabel d) ∧ s.name = N.keep (defLabel d) := by
  have hk : s.key = k := by simpa using List.find?_some h
  rcases buildTab_slot N outer 0 [] s (List.mem_of_find?_eq_some h) with h1 | ⟨j, d, hj, rfl⟩
  · cases h1
  · exact ⟨d, by simpa using hj, hk.symm, rfl⟩

mutual
theorem resKeysT_isSome (N : LabelNorm) (D : DefTab) : ∀ (t : Tree) (k : Bytes), k ∈ resKeysT N D t →
    (D.get? k).isSome = true
  | .node v sp cs, k, h => by
    rcases v.ref_or_not with ⟨name, rn, ix, rfl⟩ | hv
    · simp only [resKeysT] at h
      split at h
      · rename_i hs; rw [List.mem_singleton.mp h]; exact hs
      · cases h
    · simp only [resKeysT] at h
      exact resKeysF_isSome N D cs k h
theorem resKeysF_isSome (N : LabelNorm) (D : DefTab) : ∀ (f : Forest) (k : Bytes), k ∈ resKeysF N D f →
    (D.get? k).isSome = true
  | .nil, k, h => by cases h
  | .cons t ts, k, h => by
    simp only [resKeysF, List.mem_append] at h
    exact h.elim (resKeysT_isSome N D t k) (resKeysF_isSome N D ts k)
end

end Comrak
