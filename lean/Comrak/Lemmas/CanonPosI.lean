/-
Positions of canonical documents, layer I: the facts about the bytes of inline content that follow
from `Inl.wf` / `Inls.wf` (part of `Doc.ok`): no line end or carriage return outside breaks, line ends
never adjacent, first and last byte.
-/
import Comrak.Lemmas.CanonPosH
namespace Comrak.Canon
open Comrak Bytes

def plainB (s : Bytes) : Bool := s.all fun b => b != 0x0A && b != 0x0D

theorem plainB_append (a b : Bytes) : plainB (a ++ b) = (plainB a && plainB b) := by simp [plainB]

theorem plainB_nlFree (s : Bytes) (h : plainB s = true) : nlFree s = true := cleanB_nlFree s h

theorem plainB_cr (s : Bytes) (h : plainB s = true) : ∀ x ∈ s, x ≠ 0x0D := by
  simp only [plainB, List.all_eq_true, Bool.and_eq_true, bne_iff_ne, ne_eq] at h
  exact fun x hx => (h x hx).2

/-! That no byte of a class `q` is a line end (or a `|`) is one evaluation, `q 0x0A = false`. -/

theorem ne_of_class {q : UInt8 → Bool} {x c : UInt8} (hx : q x = false) (h : q c = true) : c ≠ x :=
  fun e => by rw [e, hx] at h; cases h

theorem all_class {α : Type} {q r : α → Bool} (hqr : ∀ c, q c = true → r c = true) {s : List α} (h : s.all q = true) :
    s.all r = true := by
  simp only [List.all_eq_true] at h ⊢
  exact fun c hc => hqr c (h c hc)

def plainByte (b : UInt8) : Bool := b != 0x0A && b != 0x0D

theorem plainByte_of {q : UInt8 → Bool} (h1 : q 0x0A = false) (h2 : q 0x0D = false) (c : UInt8) (h : q c = true) :
    plainByte c = true := by
  simp only [plainByte, Bool.and_eq_true, bne_iff_ne]
  exact ⟨ne_of_class h1 h, ne_of_class h2 h⟩

theorem plainB_of_all (s : Bytes) (q : UInt8 → Bool) (h1 : q 0x0A = false) (h2 : q 0x0D = false) (h : s.all q = true) :
    plainB s = true :=
  all_class (plainByte_of h1 h2) h

theorem plainB_of_printable (s : Bytes) (h : s.all (fun c => 0x20 ≤ c && c ≤ 0x7E) = true) : plainB s = true :=
  plainB_of_all s _ (by decide) (by decide) h

theorem rep_plain (n : Nat) (c : UInt8) (hc : plainByte c = true) : plainB (rep n c) = true := by
  simp only [plainB, rep, List.all_replicate]
  simp only [plainByte] at hc
  simp [hc]

/-- The bytes of link destinations, titles, labels, footnote names and autolinks, and of the
    delimiters around inline content: `urlChar`, `titleChar` and `" * [ ] ^`. -/
def markupChar (c : UInt8) : Bool := urlChar c || titleChar c || [0x22, 0x2A, 0x5B, 0x5D, 0x5E].contains c

theorem markup_of_url (c : UInt8) (h : (urlChar c || c == 0x20) = true) : markupChar c = true := by
  simp only [Bool.or_eq_true, beq_iff_eq] at h
  rcases h with h | rfl
  · unfold markupChar; rw [h]; rfl
  · rfl

theorem markup_of_title (c : UInt8) (h : titleChar c = true) : markupChar c = true := by
  unfold markupChar; rw [h, Bool.or_true]; rfl

theorem markup_of_alnum (c : UInt8) (h : isAsciiAlnum c = true) : markupChar c = true := by
  unfold markupChar urlChar; rw [h]; rfl

theorem markup_plain (s : Bytes) (h : s.all markupChar = true) : plainB s = true :=
  plainB_of_all s markupChar (by decide) (by decide) h

theorem mem_toDigits {b : Nat} (hb : 1 < b) (n : Nat) : ∀ c ∈ Nat.toDigits b n, ∃ d, d < b ∧ c = Nat.digitChar d := by
  induction n using Nat.strongRecOn with
  | _ n ih =>
    intro c hc
    rw [Nat.toDigits_eq_if hb] at hc
    split at hc
    · exact ⟨n, ‹n < b›, by simpa using hc⟩
    · rcases List.mem_append.mp hc with h | h
      · exact ih (n / b) (Nat.div_lt_self (by omega) hb) c h
      · exact ⟨n % b, Nat.mod_lt n (by omega), by simpa using h⟩

theorem digitChar_alnum : ∀ d : Fin 16, isAsciiAlnum (UInt8.ofNat (Nat.digitChar d.val).toNat) = true := by decide

theorem digits_alnum {b : Nat} (h1 : 1 < b) (h2 : b ≤ 16) (n : Nat) :
    ((Nat.toDigits b n).map fun c => UInt8.ofNat c.toNat).all isAsciiAlnum = true := by
  simp only [List.all_map, List.all_eq_true]
  intro c hc
  obtain ⟨d, hd, rfl⟩ := mem_toDigits h1 n c hc
  exact digitChar_alnum ⟨d, by omega⟩

theorem decBytes_alnum (n : Nat) : (decBytes n).all isAsciiAlnum = true := digits_alnum (by omega) (by omega) n
theorem hexBytes_alnum (n : Nat) : (hexBytes n).all isAsciiAlnum = true := digits_alnum (by omega) (by omega) n

theorem decBytes_plain (n : Nat) : plainB (decBytes n) = true :=
  plainB_of_all _ isAsciiAlnum (by decide) (by decide) (decBytes_alnum n)

/-- Line ends in `s` (between the bytes `p` and `a`) are never adjacent to another line end. -/
def sepOk (p : UInt8) : Bytes → UInt8 → Bool
  | [], _ => true
  | b :: r, a => (b != 0x0A || (p != 0x0A && r.headD a != 0x0A)) && sepOk b r a

theorem sep_nlFree : ∀ (s : Bytes) (p a : UInt8), nlFree s = true → sepOk p s a = true
  | [], _, _, _ => rfl
  | b :: r, p, a, h => by
    simp only [nlFree, List.all_cons, Bool.and_eq_true] at h
    unfold sepOk
    rw [sep_nlFree r b a h.2, h.1]
    rfl

theorem headD_append (x y : Bytes) (a : UInt8) : (x ++ y).headD a = x.headD (y.headD a) := by
  cases x <;> simp

theorem sep_append : ∀ (x y : Bytes) (p a : UInt8), sepOk p x (y.headD a) = true → sepOk (x.getLastD p) y a = true →
    sepOk p (x ++ y) a = true
  | [], y, p, a, _, h2 => by simpa using h2
  | b :: r, y, p, a, h1, h2 => by
    simp only [sepOk, Bool.and_eq_true] at h1
    have e : (b :: r).getLastD p = r.getLastD b := by cases r <;> rfl
    rw [e] at h2
    simp only [List.cons_append, sepOk, Bool.and_eq_true, headD_append]
    exact ⟨h1.1, sep_append r y b a h1.2 h2⟩

theorem break_sep (p n : UInt8) (x : Bytes) (hx : nlFree x = true) (hl : x.getLastD p ≠ 0x0A) (hn : n ≠ 0x0A) :
    sepOk p (x ++ [0x0A]) n = true :=
  sep_append x [0x0A] p n (sep_nlFree _ _ _ hx) (by
    simp only [sepOk, List.headD_nil, Bool.and_true, Bool.or_eq_true, Bool.and_eq_true, bne_iff_ne, ne_eq]
    exact Or.inr ⟨hl, hn⟩)

theorem allNonempty_of_head_tail (ls : List Bytes) (h1 : ls.headD [] ≠ []) (h2 : allNonempty ls.tail = true) :
    allNonempty ls = true := by
  cases ls with
  | nil => rfl
  | cons x t =>
    cases x with
    | nil => exact absurd rfl h1
    | cons c u => exact h2

/-- Content whose line ends are never adjacent has no empty line. -/
theorem sep_pieces : ∀ (s : Bytes) (p : UInt8), sepOk p s 0x0A = true →
    allNonempty (splitNl s).tail = true ∧ (s ≠ [] → s.head? ≠ some 0x0A → (splitNl s).headD [] ≠ [])
  | [], _, _ => ⟨rfl, fun h => absurd rfl h⟩
  | b :: r, p, h => by
    simp only [sepOk, Bool.and_eq_true, Bool.or_eq_true, bne_iff_ne, ne_eq] at h
    obtain ⟨i1, i2⟩ := sep_pieces r b h.2
    by_cases hb : b = 0x0A
    · subst hb
      have hh := h.1.resolve_left (fun e => e rfl)
      have hr : r ≠ [] := by
        intro e; subst e; exact hh.2 rfl
      have hrh : r.head? ≠ some 0x0A := by
        cases r with
        | nil => exact absurd rfl hr
        | cons c t => exact fun e => hh.2 (Option.some.inj e)
      rw [splitNl_nl]
      exact ⟨allNonempty_of_head_tail _ (i2 hr hrh) i1, fun _ h2 => absurd rfl h2⟩
    · rw [splitNl_other b r hb]
      exact ⟨i1, fun _ _ => List.cons_ne_nil _ _⟩

theorem sep_allNonempty (s : Bytes) (hs : s ≠ []) (h : sepOk 0x0A s 0x0A = true) : allNonempty (splitNl s) = true := by
  obtain ⟨i1, i2⟩ := sep_pieces s 0x0A h
  refine allNonempty_of_head_tail _ (i2 hs ?_) i1
  cases s with
  | nil => exact absurd rfl hs
  | cons b r =>
    intro e
    obtain rfl := Option.some.inj e
    exact Bool.false_ne_true h

/-- What `Atom.ok` gives about the spelling of an atom. -/
def atomFact (a : Atom) : Bool :=
  !a.src.isEmpty && plainB a.src && !isSpTab (a.src.headD 0 ) || (a.isSpace && a.src == [0x20])

def atomSrcOk (a : Atom) : Bool := !a.src.isEmpty && plainB a.src && (a.isSpace || !isSpTab (a.src.headD 0))

theorem ent_fact : (List.range entTable.length).all (fun i => atomSrcOk (.ent i)) = true := by decide +kernel
theorem uni_fact : (List.range uniTable.length).all (fun i => atomSrcOk (.uni i)) = true := by decide +kernel

theorem atom_fact (a : Atom) (h : a.ok = true) : atomSrcOk a = true := by
  cases a with
  | ch c =>
    have hq := fun x hx => ne_of_class (q := fun c => isAsciiAlnum c || c == 0x20 || plainPunct.contains c) (x := x) hx h
    have h1 := hq 0x0A (by decide)
    have h2 := hq 0x0D (by decide)
    have h3 := hq 0x09 (by decide)
    show (true && (c != 0x0A && c != 0x0D && true) && (c == 0x20 || !(c == 0x20 || c == 0x09))) = true
    rw [bne_iff_ne.mpr h1, bne_iff_ne.mpr h2, beq_false_of_ne h3]
    cases c == 0x20 <;> rfl
  | esc c =>
    have h1 := ne_of_class (q := isPunct) (x := 0x0A) (by decide) h
    have h2 := ne_of_class (q := isPunct) (x := 0x0D) (by decide) h
    show (true && (true && (c != 0x0A && c != 0x0D && true)) && (false || true)) = true
    rw [bne_iff_ne.mpr h1, bne_iff_ne.mpr h2]
    rfl
  | ent i =>
    simp only [Atom.ok, decide_eq_true_eq] at h
    exact List.all_eq_true.mp ent_fact i (List.mem_range.mpr h)
  | num c hex =>
    have hd := decBytes_plain c.toNat
    have hx := plainB_of_all _ isAsciiAlnum (by decide) (by decide) (hexBytes_alnum c.toNat)
    cases hex
    · simp only [atomSrcOk, Atom.src, plainB_append, hd, Bool.and_true]; rfl
    · simp only [atomSrcOk, Atom.src, plainB_append, hx, Bool.and_true]; rfl
  | uni i =>
    simp only [Atom.ok, decide_eq_true_eq] at h
    exact List.all_eq_true.mp uni_fact i (List.mem_range.mpr h)

theorem atoms_plain : ∀ (as : List Atom), as.all Atom.ok = true → plainB (atomsSrc as) = true
  | [], _ => rfl
  | a :: r, h => by
    simp only [List.all_cons, Bool.and_eq_true] at h
    have := atom_fact a h.1
    simp only [atomSrcOk, Bool.and_eq_true] at this
    simp only [atomsSrc, List.flatMap_cons, plainB_append, Bool.and_eq_true]
    exact ⟨this.1.2, atoms_plain r h.2⟩

theorem atoms_ne (as : List Atom) (h : as.all Atom.ok = true) (hne : as ≠ []) : atomsSrc as ≠ [] := by
  cases as with
  | nil => exact absurd rfl hne
  | cons a r =>
    simp only [List.all_cons, Bool.and_eq_true] at h
    have := atom_fact a h.1
    simp only [atomSrcOk, Bool.and_eq_true, Bool.not_eq_true', List.isEmpty_eq_false_iff] at this
    simp only [atomsSrc, List.flatMap_cons]
    intro e
    exact this.1.1 (List.append_eq_nil_iff.mp e).1

theorem atoms_first (as : List Atom) (h : as.all Atom.ok = true) (hf : ∀ a, as.head? = some a → a.isSpace = false) (hne : as ≠ []) :
    isSpTab ((atomsSrc as).headD 0) = false := by
  cases as with
  | nil => exact absurd rfl hne
  | cons a r =>
    simp only [List.all_cons, Bool.and_eq_true] at h
    have := atom_fact a h.1
    simp only [atomSrcOk, Bool.and_eq_true, Bool.not_eq_true', List.isEmpty_eq_false_iff, Bool.or_eq_true] at this
    have hs := hf a rfl
    have h3 := this.2.resolve_left (by simp [hs])
    simp only [atomsSrc, List.flatMap_cons]
    cases hq : a.src with
    | nil => exact absurd hq this.1.1
    | cons x t => rw [hq] at h3; simpa using h3

theorem dest_markup (url : Bytes) (angle : Bool) (h : destOk url angle = true) : (destSrc url angle).all markupChar = true := by
  cases angle
  · simp only [destOk, Bool.false_eq_true, if_false, Bool.and_eq_true] at h
    exact all_class (fun c hc => markup_of_url c (by simp [hc])) h.2
  · simp only [destOk, if_true] at h
    simp only [destSrc, if_true, List.all_append, all_class markup_of_url h, Bool.and_true]
    rfl

theorem title_markup (t : Bytes) (h : titleOk t = true) : (titleSrc t).all markupChar = true := by
  simp only [titleOk, Bool.and_eq_true] at h
  unfold titleSrc
  split
  · rfl
  · simp only [List.all_append, all_class markup_of_title h.1.1, Bool.and_true]
    rfl

theorem label_markup (l : Bytes) (h : labelOk l = true) : l.all markupChar = true := by
  simp only [labelOk, Bool.and_eq_true] at h
  exact all_class markup_of_alnum h.2

theorem fnName_markup (l : Bytes) (h : fnNameOk l = true) : l.all markupChar = true := by
  simp only [fnNameOk, Bool.and_eq_true] at h
  exact all_class markup_of_alnum h.2

theorem scheme_markup : schemeTable.all (fun s => s.all markupChar) = true := by decide +kernel

theorem autolink_markup (sc : Nat) (r : Bytes) (h1 : sc < schemeTable.length) (h2 : r.all urlChar = true) :
    (autolinkUrl sc r).all markupChar = true := by
  have hs : (schemeTable.getD sc []).all markupChar = true :=
    List.all_eq_true.mp scheme_markup (schemeTable.getD sc []) (by
      rw [List.getD_eq_getElem?_getD, List.getElem?_eq_getElem h1]; simp)
  have hr := all_class (fun c hc => markup_of_url c (by simp [hc])) h2
  simp only [autolinkUrl, List.all_append, hs, hr, Bool.and_true, Bool.true_and]
  rfl

/-- Facts about the source bytes of one inline (`br`: breaks allowed; `p`, `n`: the bytes before and after). -/
structure InlF (br : Bool) (p n : UInt8) (f : Bool) (i : Inl) : Prop where
  ph : i.ph = true
  cr : ∀ x ∈ i.src, x ≠ 0x0D
  nl : br = false → nlFree i.src = true
  sep : sepOk p i.src n = true
  hd : i.src.head? = some i.firstB
  lst : i.src.getLast? = some i.lastB
  fsp : f = true → p = 0x0A → isSpTab i.firstB = false

structure InlsF (br : Bool) (p a : UInt8) (f : Bool) (is : Inls) : Prop where
  ph : is.ph = true
  cr : ∀ x ∈ is.src, x ≠ 0x0D
  nl : br = false → nlFree is.src = true
  sep : sepOk p is.src a = true
  hd : is.src.headD a = is.firstB a
  ne : is.isNil = false → is.src ≠ []
  fsp : is.isNil = false → f = true → p = 0x0A → isSpTab (is.firstB a) = false

theorem leaf_facts (br : Bool) (p n : UInt8) (f : Bool) (i : Inl) (hph : i.ph = true) (hp : plainB i.src = true)
    (hd : i.src.head? = some i.firstB) (lst : i.src.getLast? = some i.lastB)
    (fsp : f = true → p = 0x0A → isSpTab i.firstB = false) : InlF br p n f i :=
  ⟨hph, plainB_cr _ hp, fun _ => plainB_nlFree _ hp, sep_nlFree _ _ _ (plainB_nlFree _ hp), hd, lst, fsp⟩

theorem headD_some (s : Bytes) (h : s ≠ []) : s.head? = some (s.headD 0) := by
  cases s with
  | nil => exact absurd rfl h
  | cons a b => rfl

theorem getLastD_some (s : Bytes) (h : s ≠ []) : s.getLast? = some (s.getLastD 0) := by
  rw [List.getLastD_eq_getLast?, List.getLast?_eq_some_getLast h]; rfl

theorem Inl.frame_ends : ∀ (i : Inl), i.isWrap = true →
    i.opener.head? = some i.firstB ∧ i.closer.getLast? = some i.lastB ∧ isSpTab i.firstB = false ∧ i.closer ≠ []
  | .emph true _, _ | .emph false _, _ | .strong true _, _ | .strong false _, _ | .strike _, _ =>
    ⟨rfl, rfl, rfl, List.cons_ne_nil _ _⟩
  | .link _ _ _ .inline _, _ | .link _ _ _ (.ref ..) _, _ | .image .., _ =>
    ⟨rfl, List.getLast?_concat, rfl, List.cons_ne_nil _ _⟩

/-- What `Inl.wf` says about an inline with children: the frame is markup, the children are
    well-formed between the last byte of the opener and the first byte of the closer. -/
theorem Inl.wf_frame (i : Inl) (hw : i.isWrap = true) {a b br : Bool} {p n : UInt8} {f l : Bool} {pc : Nat}
    (h : i.wf a b br p n f l pc = true) :
    i.opener.all markupChar = true ∧ i.closer.all markupChar = true ∧
      ∃ a' b', i.kids.wf a' b' br (i.opener.getLastD 0) (i.closer.headD 0) true 0 = true := by
  cases i <;> first | cases hw | skip
  case emph us cs | strong us cs =>
    simp only [Inl.wf, Bool.and_eq_true] at h
    exact ⟨by cases us <;> rfl, by cases us <;> rfl, a, b, h.2⟩
  case strike cs =>
    simp only [Inl.wf, Bool.and_eq_true] at h
    exact ⟨rfl, rfl, a, b, h.2⟩
  case link url title angle sp cs =>
    simp only [Inl.wf, Bool.and_eq_true] at h
    obtain ⟨⟨⟨⟨hsp, _⟩, hdest⟩, htitle⟩, hcs⟩ := h
    refine ⟨rfl, ?_, true, true, by cases sp <;> exact hcs⟩
    cases sp with
    | inline =>
      simp only [Inl.closer, Inl.closeMid, Inl.closeEnd, List.all_append, dest_markup url angle hdest,
        title_markup title htitle, Bool.and_true]
      rfl
    | ref label dl bf =>
      simp only [Bool.and_eq_true] at hsp
      simp only [Inl.closer, Inl.closeMid, Inl.closeEnd, List.all_append, label_markup label hsp.1.1.1.1, Bool.and_true]
      rfl
  case image url title angle cs =>
    simp only [Inl.wf, Bool.and_eq_true] at h
    obtain ⟨⟨⟨_, hdest⟩, htitle⟩, hcs⟩ := h
    refine ⟨rfl, ?_, a, true, hcs⟩
    simp only [Inl.closer, Inl.closeMid, Inl.closeEnd, List.all_append, dest_markup url angle hdest,
      title_markup title htitle, Bool.and_true]
    rfl

theorem wrap_facts (br : Bool) (p n : UInt8) (f : Bool) (i : Inl) (hw : i.isWrap = true)
    (hu : i.opener.all markupChar = true) (ht : i.closer.all markupChar = true)
    (F : InlsF br (i.opener.getLastD 0) (i.closer.headD 0) true i.kids) : InlF br p n f i := by
  obtain ⟨_, hu0, _, _, hkph, _, _⟩ := Inl.frame_facts i hw
  obtain ⟨hhd, hlst, hsp, ht0⟩ := Inl.frame_ends i hw
  have hu := markup_plain _ hu
  have ht := markup_plain _ ht
  refine ⟨hkph ▸ F.ph, ?_, ?_, ?_, ?_, ?_, fun _ _ => hsp⟩ <;> rw [Inl.src_closer i hw]
  · exact List.forall_mem_append.mpr ⟨List.forall_mem_append.mpr ⟨plainB_cr _ hu, F.cr⟩, plainB_cr _ ht⟩
  · intro hb
    simp only [nlFree_append, plainB_nlFree _ hu, F.nl hb, plainB_nlFree _ ht, Bool.and_self]
  · rw [List.append_assoc]
    refine sep_append _ _ p n (sep_nlFree _ _ _ (plainB_nlFree _ hu)) ?_
    have e1 : i.opener.getLastD p = i.opener.getLastD 0 := by
      rw [List.getLastD_eq_getLast?, List.getLastD_eq_getLast?, getLastD_some _ hu0]; rfl
    have e2 : i.closer.headD n = i.closer.headD 0 := by
      cases hq : i.closer with
      | nil => exact absurd hq ht0
      | cons a b => rfl
    rw [e1]
    exact sep_append _ _ _ n (by rw [e2]; exact F.sep) (sep_nlFree _ _ _ (plainB_nlFree _ ht))
  · rw [List.append_assoc, List.head?_append, hhd]; rfl
  · rw [List.getLast?_append, hlst]; rfl

mutual
theorem inl_facts : ∀ (i : Inl) (a b br : Bool) (p n : UInt8) (f l : Bool) (pc : Nat),
    i.wf a b br p n f l pc = true → InlF br p n f i
  | .text as => fun _ _ br p n f _ _ h => by
    simp only [Inl.wf, Bool.and_eq_true, Bool.not_eq_true', List.isEmpty_eq_false_iff] at h
    obtain ⟨⟨⟨hne, hok⟩, hh⟩, _⟩ := h
    have hsne := atoms_ne as hok hne
    have hpl := atoms_plain as hok
    refine leaf_facts br p n f _ ?_ hpl (headD_some _ hsne) (getLastD_some _ hsne) (fun _ hp => ?_)
    · simp only [Inl.ph, Bool.and_eq_true, Bool.not_eq_true', List.isEmpty_eq_false_iff]
      exact ⟨hsne, plainB_nlFree _ hpl⟩
    · subst hp
      refine atoms_first as hok (fun a ha => ?_) hne
      rw [ha] at hh
      simpa using hh
  | .code k s => fun _ _ br p n f _ _ h => by
    simp only [Inl.wf, Bool.and_eq_true, decide_eq_true_eq] at h
    have hk : 1 ≤ k := h.1.1.1.1.1.1.1.1.1.1.1.1
    have hs : s.all (fun c => 0x20 ≤ c && c ≤ 0x7E) = true := h.1.1.1.1.1.1.1.1.1.2
    obtain ⟨m, rfl⟩ := exists_add_one hk
    have hr := rep_plain (m + 1) 0x60 rfl
    have hs' := plainB_of_printable s hs
    have hpl : plainB (Inl.code (m + 1) s).src = true := by
      simp only [Inl.src, plainB_append, hr, hs', Bool.and_self]
    refine leaf_facts br p n f _ (by simp [Inl.ph]) hpl rfl ?_ (fun _ _ => rfl)
    have e : (Inl.code (m + 1) s).src = (rep (m + 1) 0x60 ++ s ++ rep m 0x60) ++ [0x60] := by
      simp [Inl.src, rep_succ']
    rw [e, List.getLast?_append]; rfl
  | .emph _ cs | .strong _ cs | .strike cs | .link _ _ _ _ cs | .image _ _ _ cs => fun _ _ br p n f _ _ h =>
    have ⟨hu, ht, a', b', hk⟩ := Inl.wf_frame _ rfl h
    wrap_facts br p n f _ rfl hu ht (inls_facts cs a' b' br _ _ true 0 hk)
  | .autolink sc r => fun _ _ br p n f _ _ h => by
    simp only [Inl.wf, Bool.and_eq_true, decide_eq_true_eq] at h
    have hu := markup_plain _ (autolink_markup sc r h.1.2 h.2)
    have hpl : plainB (Inl.autolink sc r).src = true := by
      simp only [Inl.src, plainB_append, hu, Bool.and_true]; rfl
    refine leaf_facts br p n f _ (by simpa [Inl.ph] using plainB_nlFree _ hu) hpl rfl ?_ (fun _ _ => rfl)
    simp [Inl.src, Inl.lastB]
  | .hard bs => fun _ _ br p n f _ _ h => by
    simp only [Inl.wf, Bool.and_eq_true, Bool.not_eq_true', bne_iff_ne, ne_eq] at h
    obtain ⟨⟨⟨⟨⟨⟨⟨hbr, hf⟩, _⟩, hp⟩, _⟩, hn⟩, _⟩, _⟩ := h
    subst hbr
    cases bs
    · exact ⟨rfl, by decide, (fun h => by cases h), break_sep p n [0x20, 0x20] rfl (by show (0x20 : UInt8) ≠ 0x0A; decide) hn,
        rfl, rfl, (fun h1 _ => by rw [h1] at hf; cases hf)⟩
    · exact ⟨rfl, by decide, (fun h => by cases h), break_sep p n [0x5C] rfl (by show (0x5C : UInt8) ≠ 0x0A; decide) hn,
        rfl, rfl, (fun h1 _ => by rw [h1] at hf; cases hf)⟩
  | .soft => fun _ _ br p n f _ _ h => by
    simp only [Inl.wf, Bool.and_eq_true, Bool.not_eq_true', bne_iff_ne, ne_eq] at h
    obtain ⟨⟨⟨⟨⟨⟨hbr, hf⟩, _⟩, hp⟩, _⟩, hn⟩, _⟩ := h
    subst hbr
    exact ⟨rfl, by decide, (fun h => by cases h), break_sep p n [] rfl hp hn, rfl, rfl,
      (fun h1 _ => by rw [h1] at hf; cases hf)⟩
  | .fnref name rn ix => fun _ _ br p n f _ _ h => by
    simp only [Inl.wf, Bool.and_eq_true] at h
    have hnm := markup_plain _ (fnName_markup name h.1.1.1.1.1.1.2)
    have hpl : plainB (Inl.fnref name rn ix).src = true := by
      simp only [Inl.src, plainB_append, hnm, Bool.and_true]; rfl
    refine leaf_facts br p n f _ rfl hpl rfl ?_ (fun _ _ => rfl)
    simp [Inl.src, Inl.lastB]
theorem inls_facts : ∀ (is : Inls) (a b br : Bool) (p af : UInt8) (f : Bool) (pc : Nat),
    is.wf a b br p af f pc = true → InlsF br p af f is
  | .nil => fun _ _ _ _ _ _ _ _ =>
    ⟨rfl, (by simp [Inls.src]), (fun _ => rfl), rfl, rfl, (fun h => by cases h), (fun h => by cases h)⟩
  | .cons i r => fun a b br p af f pc h => by
    simp only [Inls.wf, Bool.and_eq_true] at h
    have Fi := inl_facts i a b br p (r.firstB af) f r.isNil pc h.1.2
    have Fr := inls_facts r a b br i.lastB af false i.textClass h.2
    have hine := Inl.src_ne_nil i Fi.ph
    refine ⟨by simp [Inls.ph, Fi.ph, Fr.ph], ?_, ?_, ?_, ?_, fun _ => by simp [Inls.src, hine], ?_⟩
    · exact List.forall_mem_append.mpr ⟨Fi.cr, Fr.cr⟩
    · intro hb; simp only [Inls.src, nlFree_append, Fi.nl hb, Fr.nl hb, Bool.and_self]
    · simp only [Inls.src]
      refine sep_append i.src r.src p af (by rw [Fr.hd]; exact Fi.sep) ?_
      have : i.src.getLastD p = i.lastB := by
        rw [List.getLastD_eq_getLast?, Fi.lst]; rfl
      rw [this]; exact Fr.sep
    · simp only [Inls.src, Inls.firstB, headD_append]
      cases hq : i.src with
      | nil => exact absurd hq hine
      | cons x t =>
        have := Fi.hd
        rw [hq] at this
        simpa using this
    · intro _ hf hp
      simpa [Inls.firstB] using Fi.fsp hf hp
end

end Comrak.Canon
