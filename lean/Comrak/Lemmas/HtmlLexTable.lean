/-
An event list that passes the flagged tag stack `runO` (Lemmas/HtmlTagStack) spells bytes whose lexed tokens pass
`balLoop`, the loop of the full oracle `balancedBytes`: `balStep` is `stepO` on tag events plus the void test and
the footnote-section counter, and the lexed image counts the footnote section as the token list does.
-/
import Comrak.Lemmas.HtmlLexBal
import Comrak.Lemmas.HtmlLexFn
namespace Comrak
open Bytes

theorem balLoop_textL (S : List Open) (fn : Nat) (pre : Bytes) (r : List LTok) :
    balLoop S fn (textL pre ++ r) = balLoop S fn r := by
  unfold textL
  split
  · rfl
  · simp [balLoop, balStep]

theorem balLoop_of_runO (ts : List Tok) (S : List Open) (fn : Nat) (pre : Bytes) (hv : ts.all voidOk = true)
    (hf : fn + fnCount ts ≤ 1) (h : runO S (events ts) = some []) :
    balLoop S fn (toLAux pre ts) = .ok () := by
  induction ts generalizing S fn pre with
  | nil =>
    have : S = [] := by simpa using h
    subst this
    rw [toLAux, ← List.append_nil (textL pre), balLoop_textL]
    rfl
  | cons t r ih =>
    simp only [List.all_cons, Bool.and_eq_true] at hv
    rw [events_cons] at h
    rw [fnCount_cons] at hf
    have hr : fn + fnCount r ≤ 1 := by omega
    cases t
    case txt | lit | raw => exact ih _ _ _ hv.2 hr h
    case cmt =>
      simp only [toLAux, balLoop_textL, balLoop, balStep]
      exact ih _ _ _ hv.2 hr h
    case vd n as =>
      have h1 : voidNames.contains n = true := hv.1
      simp only [toLAux, balLoop_textL, balLoop, balStep, h1, if_true]
      exact ih _ _ _ hv.2 hr h
    case cl n =>
      simp only [Tok.events, List.singleton_append, runO_cons] at h
      cases S with
      | nil => cases h
      | cons top st =>
        simp only [stepO] at h
        by_cases ht : (top.name == n) = true
        · simp only [ht, if_true, Option.bind_some] at h
          simp only [toLAux, balLoop_textL, balLoop, balStep, ht, if_true]
          exact ih _ _ _ hv.2 hr h
        · simp [ht] at h
    case op n as =>
      have h1 : voidNames.contains n = false := (Bool.not_eq_true' _).mp hv.1
      simp only [Tok.events, List.singleton_append, runO_cons] at h
      cases hs : stepO S (.op n) with
      | none => rw [hs] at h; cases h
      | some S' =>
        rw [hs, Option.bind_some] at h
        -- the model token counts as the footnote section exactly when its lexed image does
        have hsec : fnSecTok (.op n as) = isFootnoteSection n (as.map lattr) := rfl
        rw [hsec] at hf
        have hf' : (if isFootnoteSection n (as.map lattr) then fn + 1 else fn) + fnCount r ≤ 1 := by
          split
          · rename_i hq; rw [if_pos hq] at hf; omega
          · rename_i hq; rw [if_neg hq] at hf; omega
        have hstep := balStep_op S fn n (as.map lattr)
        rw [hs, if_neg (Bool.eq_false_iff.mp h1), if_neg (by omega), Option.map_some, toOption_eq_some] at hstep
        simp only [toLAux, balLoop_textL, balLoop, hstep]
        exact ih _ _ _ hv.2 hf' h

end Comrak
