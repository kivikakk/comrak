/-
Lemmas for C15 (anchors, the code as it is): the memoised `Anchorizer` (`anchorizeMemo` of Comrak/Anchor.lean, /repo
commit 70a0ef9) refines the set-based `anchorize`, since under `MemoInv` both searches stop at the same suffix.  Its
probes are linear: a call probes as often as it adds to the stored counters, whose sum is at most twice the number of
issued anchors.  The set-based loop is quadratic on equal headings.
-/
import Comrak.Lemmas.Anchor
namespace Comrak
open Bytes

namespace AnchorMap

theorem get_insert (m : AnchorMap) (k : Bytes) (v : Nat) (k' : Bytes) :
    (m.insert k v).get k' = if k = k' then some v else m.get k' := by
  fun_induction insert m k v with
  | case1 => rfl
  | case2 w r k v =>
    rw [get, get]
    by_cases e : k = k'
    · rw [if_pos e, if_pos e]
    · rw [if_neg e, if_neg e, if_neg e]
  | case3 a w r k v h ih =>
    rw [get, get, ih]
    by_cases e : a = k'
    · rw [if_pos e, if_pos e, if_neg (e ▸ Ne.symm h)]
    · rw [if_neg e, if_neg e]

theorem containsKey_insert (m : AnchorMap) (k : Bytes) (v : Nat) (k' : Bytes) :
    (m.insert k v).containsKey k' = (decide (k = k') || m.containsKey k') := by
  simp only [containsKey, get_insert]
  by_cases h : k = k' <;> simp [h]

theorem containsKey_iff (m : AnchorMap) (k : Bytes) : m.containsKey k = true ↔ k ∈ m.map (·.1) := by
  unfold containsKey
  fun_induction get m k with
  | case1 => simp
  | case2 v r k => simp
  | case3 k' v r k h ih => simp [ih, Ne.symm h]

/-- Well-formed: one entry per key (a `HashMap`). -/
def WF (m : AnchorMap) : Prop := (m.map (·.1)).Nodup

theorem wf_nil : WF [] := List.nodup_nil

theorem mem_keys_insert (m : AnchorMap) (k : Bytes) (v : Nat) (x : Bytes) :
    x ∈ (m.insert k v).map (·.1) ↔ x = k ∨ x ∈ m.map (·.1) := by
  rw [← containsKey_iff, ← containsKey_iff, containsKey_insert, Bool.or_eq_true, decide_eq_true_eq, eq_comm]

theorem wf_insert (m : AnchorMap) (k : Bytes) (v : Nat) (h : WF m) : WF (m.insert k v) := by
  unfold WF at h ⊢
  fun_induction insert m k v with
  | case1 => simp
  | case2 => exact h
  | case3 a w r k v h1 ih =>
    have hnd := List.nodup_cons.mp h
    exact List.nodup_cons.mpr ⟨fun hm => ((mem_keys_insert r k v a).mp hm).elim h1 hnd.1, ih hnd.2⟩

theorem get_of_mem (m : AnchorMap) (h : WF m) (k : Bytes) (v : Nat) (hm : (k, v) ∈ m) : m.get k = some v := by
  unfold WF at h
  fun_induction get m k with
  | case1 => cases hm
  | case2 w r k =>
    rcases List.mem_cons.mp hm with he | hr
    · cases he; rfl
    · exact absurd (List.mem_map.mpr ⟨_, hr, rfl⟩) (List.nodup_cons.mp h).1
  | case3 k' w r k hne ih =>
    rcases List.mem_cons.mp hm with he | hr
    · cases he; exact absurd rfl hne
    · exact ih (List.nodup_cons.mp h).2 hr

theorem valSum_insert (m : AnchorMap) (k : Bytes) (v : Nat) :
    (m.insert k v).valSum + (m.get k).getD 0 = m.valSum + v := by
  fun_induction insert m k v with
  | case1 => simp [get, valSum]
  | case2 w r k v => simp only [get, valSum, if_true, List.map_cons, List.sum_cons, Option.getD_some]; omega
  | case3 a w r k v h ih =>
    simp only [get, valSum, if_neg h, List.map_cons, List.sum_cons] at ih ⊢
    omega

end AnchorMap

theorem memoLoop_eq_firstFree (m : AnchorMap) (id : Bytes) : ∀ (fuel uniq : Nat),
    memoLoop m id fuel uniq =
      (firstFree (fun j => m.containsKey (anchorCand id j)) fuel uniq).map fun u => (anchorCand id u, u)
  | 0, _ => rfl
  | fuel + 1, uniq => by
    rw [memoLoop, firstFree, memoLoop_eq_firstFree m id fuel (uniq + 1)]
    cases m.containsKey (anchorCand id uniq) <;> rfl

theorem memoLoopProbes_eq (m : AnchorMap) (id : Bytes) : ∀ (fuel uniq : Nat),
    memoLoopProbes m id fuel uniq = firstFreeProbes (fun j => m.containsKey (anchorCand id j)) fuel uniq
  | 0, _ => rfl
  | fuel + 1, uniq => by rw [memoLoopProbes, firstFreeProbes, memoLoopProbes_eq m id fuel (uniq + 1)]

theorem memoLoop_search (m : AnchorMap) (id : Bytes) (uniq : Nat) :
    ∃ u, firstFree (fun j => m.containsKey (anchorCand id j)) (m.length + 1) uniq = some u := by
  have := firstFree_isSome (fun j => m.containsKey (anchorCand id j)) id (m.map (·.1))
    (fun j h => (AnchorMap.containsKey_iff m _).mp h) uniq
  rwa [List.length_map] at this

theorem memoLoop_ne_none (m : AnchorMap) (id : Bytes) (uniq : Nat) :
    memoLoop m id (m.length + 1) uniq ≠ none := by
  obtain ⟨u, hu⟩ := memoLoop_search m id uniq
  rw [memoLoop_eq_firstFree, hu]
  exact fun h => nomatch h

theorem anchorizeMemo_eq (nt : NormTable) (m : AnchorMap) (header : Bytes) :
    ∃ u, firstFree (fun j => m.containsKey (anchorCand (nt.norm header) j)) (m.length + 1)
        ((m.get (nt.norm header)).getD 0) = some u ∧
      anchorizeMemo nt m header = (anchorCand (nt.norm header) u,
        (m.insert (anchorCand (nt.norm header) u) 0).insert (nt.norm header) (u + 1)) ∧
      anchorizeMemoProbes nt m header = u + 1 - (m.get (nt.norm header)).getD 0 := by
  obtain ⟨u, hu⟩ := memoLoop_search m (nt.norm header) ((m.get (nt.norm header)).getD 0)
  refine ⟨u, hu, ?_, ?_⟩
  · simp only [anchorizeMemo, memoLoop_eq_firstFree, hu, Option.map_some]
  · rw [anchorizeMemoProbes, memoLoopProbes_eq, (firstFree_some _ _ _ u hu).2.2.2]

/-- The map of the code as it is, related to the set of issued anchors of the specification:
    the keys are the issued anchors, and below the counter stored with a key every candidate is taken. -/
structure MemoInv (m : AnchorMap) (issued : List Bytes) : Prop where
  keys : ∀ k, m.containsKey k = true ↔ k ∈ issued
  taken : ∀ k v, m.get k = some v → ∀ j, j < v → m.containsKey (anchorCand k j) = true

theorem anchorCand_zero (id : Bytes) : anchorCand id 0 = id := by simp [anchorCand]

/-- What one call does, in terms of both models: below the stored counter every candidate is issued, from there on
    the two searches see the same candidates taken, so both stop at the same suffix. -/
theorem anchorizeMemo_step (nt : NormTable) (m : AnchorMap) (issued : List Bytes) (header : Bytes)
    (h : MemoInv m issued) :
    ∃ u, anchorize nt issued header = (anchorCand (nt.norm header) u, anchorCand (nt.norm header) u :: issued) ∧
      anchorizeMemo nt m header =
        (anchorCand (nt.norm header) u, (m.insert (anchorCand (nt.norm header) u) 0).insert (nt.norm header) (u + 1)) ∧
      anchorCand (nt.norm header) u ∉ issued ∧
      (∀ j, j < u → anchorCand (nt.norm header) j ∈ issued) := by
  obtain ⟨u, hu, e2, _⟩ := anchorizeMemo_eq nt m header
  obtain ⟨k, e1, o1, o3⟩ := anchorize_eq nt issued header
  generalize nt.norm header = id at *
  obtain ⟨m2, m3, m4, _⟩ := firstFree_some _ _ _ _ hu
  have hlow : ∀ j, j < u → anchorCand id j ∈ issued := by
    intro j hj
    by_cases hc : (m.get id).getD 0 ≤ j
    · exact (h.keys _).mp (m4 j hc hj)
    · cases hg : m.get id with
      | none => rw [hg] at hc; exact absurd (Nat.zero_le j) hc
      | some v => exact (h.keys _).mp (h.taken id v hg j (by rw [hg] at hc; exact Nat.lt_of_not_le hc))
  have hku : k = u := least_failure_unique o1 (fun hi => by rw [(h.keys _).mpr hi] at m3; cases m3) o3 hlow
  subst hku
  exact ⟨k, e1, e2, o1, o3⟩

theorem MemoInv.insert {m : AnchorMap} {issued issued' : List Bytes} (h : MemoInv m issued) (k : Bytes) (v : Nat)
    (hmem : ∀ x, x ∈ issued' ↔ x = k ∨ x ∈ issued) (hv : ∀ j, j < v → anchorCand k j ∈ issued') :
    MemoInv (m.insert k v) issued' := by
  have hkeys : ∀ x, (m.insert k v).containsKey x = true ↔ x ∈ issued' := fun x => by
    rw [AnchorMap.containsKey_insert, Bool.or_eq_true, decide_eq_true_eq, hmem, h.keys, eq_comm]
  refine ⟨hkeys, fun x w hg j hj => (hkeys _).mpr ?_⟩
  rw [AnchorMap.get_insert] at hg
  by_cases hx : k = x
  · subst hx
    rw [if_pos rfl, Option.some.injEq] at hg
    exact hv j (hg ▸ hj)
  · rw [if_neg hx] at hg
    exact (hmem _).mpr (.inr ((h.keys _).mp (h.taken x w hg j hj)))

theorem MemoInv.step {m : AnchorMap} {issued : List Bytes} (h : MemoInv m issued) (id : Bytes) (u : Nat)
    (hb : ∀ j, j < u → anchorCand id j ∈ issued) :
    MemoInv ((m.insert (anchorCand id u) 0).insert id (u + 1)) (anchorCand id u :: issued) := by
  have hcand : ∀ j, j < u + 1 → anchorCand id j ∈ anchorCand id u :: issued := fun j hj =>
    (Nat.lt_succ_iff_lt_or_eq.mp hj).elim (fun hj => List.mem_cons_of_mem _ (hb j hj)) (· ▸ List.mem_cons_self)
  refine (h.insert (anchorCand id u) 0 (fun _ => List.mem_cons) fun j hj => absurd hj (Nat.not_lt_zero j)).insert
    id (u + 1) (fun x => ⟨.inr, fun hx => hx.elim (fun e => ?_) (fun hx => hx)⟩) hcand
  -- the base is issued by now: it is its own candidate 0
  have := hcand 0 (Nat.succ_pos u)
  rw [anchorCand_zero] at this
  exact e ▸ this

theorem dash_not_in_dec (n : Nat) : (0x2D : UInt8) ∉ ofNatDec n :=
  fun h => absurd (ofNatDec_digits n _ h) (by decide)

theorem split_last_unique (d : UInt8) (a b x y : Bytes) (hx : d ∉ x) (hy : d ∉ y)
    (h : a ++ d :: x = b ++ d :: y) : a = b ∧ x = y := by
  -- one of `a`, `b` is the other followed by some `c`, and `c` is empty since no `d` follows the last one
  have key : ∀ (c u w : Bytes), d ∉ u → d :: u = c ++ d :: w → c = [] := by
    intro c u w hu e
    cases c with
    | nil => rfl
    | cons _ c => exact absurd (by rw [(List.cons.inj e).2]; simp) hu
  rcases List.append_eq_append_iff.mp h with ⟨c, rfl, hc⟩ | ⟨c, rfl, hc⟩
  · cases key c x y hx hc
    simpa using hc
  · cases key c y x hy hc
    simpa using hc.symm

theorem anchorCand_injective2 (k k' : Bytes) (j j' : Nat) (hj : j ≠ 0) (hj' : j' ≠ 0)
    (h : anchorCand k j = anchorCand k' j') : k = k' ∧ j = j' := by
  simp only [anchorCand, hj, hj', if_false, List.append_assoc, List.singleton_append] at h
  obtain ⟨h1, h2⟩ := split_last_unique 0x2D k k' _ _ (dash_not_in_dec j) (dash_not_in_dec j') h
  exact ⟨h1, ofNatDec_injective h2⟩

/-- The witnesses of the potential: for every key and every suffix below its counter, the candidate
    together with the flag "is the bare key". -/
def memoWitnesses (m : AnchorMap) : List (Bytes × Bool) :=
  m.flatMap fun kv => (List.range kv.2).map fun j => (anchorCand kv.1 j, decide (j = 0))

theorem memoWitnesses_length (m : AnchorMap) : (memoWitnesses m).length = m.valSum := by
  induction m with
  | nil => rfl
  | cons a r ih =>
    simp only [memoWitnesses, List.flatMap_cons, List.length_append, List.length_map, List.length_range,
      AnchorMap.valSum, List.map_cons, List.sum_cons] at ih ⊢
    rw [ih]

theorem memoWitnesses_nodup (m : AnchorMap) (h : m.WF) : (memoWitnesses m).Nodup := by
  unfold memoWitnesses
  show List.Pairwise (· ≠ ·) _
  rw [List.pairwise_flatMap]
  constructor
  · intro kv _
    exact List.Pairwise.map _ (fun a b hab he => hab (anchorCand_injective kv.1 (Prod.mk.inj he).1)) List.nodup_range
  · refine List.Pairwise.imp ?_ (List.pairwise_map.mp h)
    intro a b hab x hx y hy he
    obtain ⟨j, _, rfl⟩ := List.mem_map.mp hx
    obtain ⟨j', _, rfl⟩ := List.mem_map.mp hy
    simp only [Prod.mk.injEq, decide_eq_decide] at he
    by_cases hj : j = 0
    · have hj' := he.2.mp hj
      rw [hj, hj', anchorCand_zero, anchorCand_zero] at he
      exact hab he.1
    · exact hab (anchorCand_injective2 _ _ _ _ hj (fun e => hj (he.2.mpr e)) he.1).1

/-- **The potential is at most twice the number of issued anchors**: an anchor is a witness at most twice,
    once as a bare key and once as a suffixed candidate of its only possible base. -/
theorem valSum_le (m : AnchorMap) (issued : List Bytes) (h : MemoInv m issued) (hw : m.WF) :
    m.valSum ≤ 2 * issued.length := by
  have hsub : memoWitnesses m ⊆ issued.map (·, true) ++ issued.map (·, false) := by
    intro x hx
    obtain ⟨kv, hkv, hx⟩ := List.mem_flatMap.mp hx
    obtain ⟨j, hj, rfl⟩ := List.mem_map.mp hx
    have hi : anchorCand kv.1 j ∈ issued :=
      (h.keys _).mp (h.taken kv.1 kv.2 (AnchorMap.get_of_mem m hw kv.1 kv.2 hkv) j (List.mem_range.mp hj))
    cases decide (j = 0) <;> simp [hi]
  have := List.Nodup.length_le_of_subset (memoWitnesses_nodup m hw) hsub
  rw [memoWitnesses_length, List.length_append, List.length_map, List.length_map] at this
  omega

theorem anchorizeMemo_probes_potential (nt : NormTable) (m : AnchorMap) (header : Bytes) :
    (anchorizeMemo nt m header).2.valSum = m.valSum + anchorizeMemoProbes nt m header := by
  obtain ⟨u, hu, e, ep⟩ := anchorizeMemo_eq nt m header
  simp only [e, ep]
  generalize nt.norm header = id at *
  obtain ⟨m2, m3, _, _⟩ := firstFree_some _ _ _ _ hu
  have hga : m.get (anchorCand id u) = none := Option.isNone_iff_eq_none.mp (Option.isSome_eq_false_iff.mp m3)
  -- the first insert adds a key with counter 0; if that key is the base itself (`u = 0`) the base had no counter
  have hg : (((m.insert (anchorCand id u) 0).get id).getD 0) = (m.get id).getD 0 := by
    rw [AnchorMap.get_insert]
    split
    · rename_i e; rw [← e, hga]; rfl
    · rfl
  have s1 := AnchorMap.valSum_insert m (anchorCand id u) 0
  have s2 := AnchorMap.valSum_insert (m.insert (anchorCand id u) 0) id (u + 1)
  rw [hga, Option.getD_none] at s1
  omega

theorem memoProbes_potential (nt : NormTable) (hs : List Bytes) (m : AnchorMap) :
    (memoStateFrom nt m hs).valSum = m.valSum + memoProbesFrom nt m hs := by
  induction hs generalizing m with
  | nil => rfl
  | cons x hs ih =>
    simp only [memoStateFrom, memoProbesFrom]
    rw [ih, anchorizeMemo_probes_potential]
    omega

theorem anchorizeMemo_wf (nt : NormTable) (m : AnchorMap) (header : Bytes) (h : m.WF) :
    (anchorizeMemo nt m header).2.WF := by
  obtain ⟨u, _, e, _⟩ := anchorizeMemo_eq nt m header
  rw [e]
  exact AnchorMap.wf_insert _ _ _ (AnchorMap.wf_insert _ _ _ h)

theorem anchorizeFrom_length (nt : NormTable) (hs : List Bytes) (issued : List Bytes) :
    (anchorizeFrom nt issued hs).length = hs.length := by
  induction hs generalizing issued with
  | nil => rfl
  | cons x hs ih => simp only [anchorizeFrom, List.length_cons, ih]

theorem memoStateFrom_inv (nt : NormTable) (hs : List Bytes) (m : AnchorMap) (issued : List Bytes)
    (h : MemoInv m issued) (hw : m.WF) :
    ∃ issued', MemoInv (memoStateFrom nt m hs) issued' ∧ (memoStateFrom nt m hs).WF ∧
      issued'.length = issued.length + hs.length := by
  induction hs generalizing m issued with
  | nil => exact ⟨issued, h, hw, rfl⟩
  | cons x hs ih =>
    obtain ⟨u, _, e, _, hb⟩ := anchorizeMemo_step nt m issued x h
    have hw' := anchorizeMemo_wf nt m x hw
    rw [e] at hw'
    obtain ⟨i', a1, a2, a3⟩ := ih _ _ (h.step _ u hb) hw'
    rw [memoStateFrom, e]
    exact ⟨i', a1, a2, by rw [a3, List.length_cons, List.length_cons]; omega⟩

theorem tri_succ (n : Nat) : (n + 1) * (n + 2) / 2 = n * (n + 1) / 2 + (n + 1) := by
  have : (n + 1) * (n + 2) = n * (n + 1) + 2 * (n + 1) := by
    simp only [Nat.mul_add, Nat.add_mul, Nat.mul_one, Nat.one_mul]
    omega
  rw [this, Nat.add_mul_div_left _ _ (by omega : 0 < 2)]

/-- From a set that holds exactly the first `i` candidates of the heading's base, `n` more copies of the
    heading cost `(i+1) + (i+2) + ... + (i+n)` probes. -/
theorem oldProbesFrom_replicate (nt : NormTable) (h : Bytes) (n : Nat) :
    ∀ (i : Nat) (issued : List Bytes), (∀ j, anchorCand (nt.norm h) j ∈ issued ↔ j < i) →
      oldProbesFrom nt issued (List.replicate n h) = n * i + n * (n + 1) / 2 := by
  induction n with
  | zero => intro i issued _; simp [oldProbesFrom]
  | succ n ih =>
    intro i issued hS
    -- the search stops at suffix `i`, after `i + 1` probes
    obtain ⟨u, e1, hp, o1, o3⟩ := anchorLoop_spec issued (nt.norm h)
    have hui : u = i :=
      least_failure_unique o1 (fun hm => Nat.lt_irrefl i ((hS i).mp hm)) o3 (fun j hj => (hS j).mpr hj)
    rw [hui] at e1 hp
    have ha : anchorize nt issued h = (anchorCand (nt.norm h) i, anchorCand (nt.norm h) i :: issued) := by
      simp only [anchorize, e1]
    rw [List.replicate_succ, oldProbesFrom, hp, ha, ih (i + 1) (anchorCand (nt.norm h) i :: issued) ?_, tri_succ]
    · simp only [Nat.mul_add, Nat.add_mul, Nat.mul_one, Nat.one_mul]
      omega
    · intro j
      rw [List.mem_cons, hS, Nat.lt_succ_iff_lt_or_eq, or_comm]
      exact or_congr_right ⟨fun e => anchorCand_injective _ e, fun e => e ▸ rfl⟩

end Comrak
