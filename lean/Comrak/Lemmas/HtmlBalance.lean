/-
Per-node pairing lemmas for the HTML renderer: which element names `enter` leaves open and
which names `exit` closes, for every node kind and every option vector.
-/
import Comrak.Lemmas.Html
namespace Comrak
open Bytes

/-- Section element opened by a table row before its `<tr>`. -/
def rowSectionNames (header : Bool) (prev : Option NodeValue) : List Bytes :=
  if header then [S.t_thead]
  else match prev with
    | some (.tableRow true) => [S.t_tbody]
    | _ => []

theorem run_rowSectionToks (h : Bool) (prev : Option NodeValue) (s : List Bytes) :
    run s (events (rowSectionToks h prev)) = some (rowSectionNames h prev ++ s) := by
  unfold rowSectionToks rowSectionNames
  split
  · simp [Tok.events, nl]
  · split <;> simp [Tok.events, nl]

/-- Element names left open by `enter`, innermost first. -/
def opened (o : HtmlOpts) (cx : Ctx) (st : St) : NodeValue → List Bytes
  | .blockQuote => [S.t_blockquote]
  | .multilineBlockQuote .. => [S.t_blockquote]
  | .list l => match l.ty with | .bullet => [S.t_ul] | .ordered => [S.t_ol]
  | .item _ => [S.t_li]
  | .descriptionList => [S.t_dl]
  | .descriptionTerm => [S.t_dt]
  | .descriptionDetails => [S.t_dd]
  | .paragraph => if paraTight cx then [] else [S.t_p]
  | .heading level _ => [headingName level]
  | .footnoteDefinition .. => if st.fnIx = 0 then [S.t_li, S.t_ol, S.t_section] else [S.t_li]
  | .table .. => [S.t_table]
  | .tableRow h => S.t_tr :: rowSectionNames h cx.prev
  | .tableCell => [if (match cx.parent with | some (.tableRow h) => h | _ => false) then S.t_th else S.t_td]
  | .taskItem _ => [S.t_li]
  | .emph => [S.t_em]
  | .strong => if !o.gfmQuirks || !parentIsStrong cx then [S.t_strong] else []
  | .strikethrough => [S.t_del]
  | .superscript => [S.t_sup]
  | .subscript => [S.t_sub]
  | .underline => [S.t_u]
  | .spoileredText => [S.t_span]
  | .link .. => if !o.relaxedAutolinks || !parentIsLink cx then [S.t_a] else []
  | .image .. => if o.figureWithCaption then [S.t_figure] else []
  | .escaped => if o.escapedCharSpans then [S.t_span] else []
  | .wikiLink _ => [S.t_a]
  | .alert .. => [S.t_div]
  | _ => []

/-- Element names closed by `exit`, innermost first. -/
def closing (o : HtmlOpts) (cx : Ctx) (v : NodeValue) (cs : Forest) : List Bytes :=
  match v with
  | .footnoteDefinition .. => [S.t_li]
  | .table .. => if cs.length ≠ 1 then [S.t_tbody, S.t_table] else [S.t_table]
  | .tableRow h => if h then [S.t_tr, S.t_thead] else [S.t_tr]
  | v => opened o cx {} v

theorem run_backrefToks (s : List Bytes) (name : Bytes) (ix k n : Nat) :
    run s (events (backrefToks name ix k n)) = some s := by
  induction k generalizing n with
  | zero => simp [backrefToks]
  | succ k ih =>
    simp only [backrefToks]
    split <;> simp [Tok.events, litAttr, ih]

theorem run_putBackref (s : List Bytes) (name : Bytes) (total : Nat) (st : St) :
    run s (events (putBackref name total st).1.1) = some s := by
  unfold putBackref
  split
  · simp
  · simp [run_backrefToks]

theorem run_htmlBlockToks (o : HtmlOpts) (l : Bytes) (s : List Bytes) :
    run s (events (htmlBlockToks o l)) = some s := by
  unfold htmlBlockToks; (repeat' split) <;> simp [Tok.events]

theorem run_htmlInlineToks (o : HtmlOpts) (l : Bytes) (s : List Bytes) :
    run s (events (htmlInlineToks o l)) = some s := by
  unfold htmlInlineToks; (repeat' split) <;> simp [Tok.events]

theorem enter_opened (o : HtmlOpts) (nt : NormTable) (cx : Ctx) (v : NodeValue) (sp : Sp) (cs : Forest)
    (st : St) (s : List Bytes) :
    run s (events (enter o nt cx v sp cs st).1) = some (opened o cx st v ++ s) := by
  cases v
  all_goals dsimp only [enter, opened]
  case alert ty title m fl fo => cases title <;> simp [Tok.events, nl, litAttr]
  case heading level setext => cases h : o.headerIds <;> simp [Tok.events, litAttr]
  case htmlBlock bt l => simp [run_htmlBlockToks]
  case htmlInline l => simp [run_htmlInlineToks]
  case tableRow h => simp [Tok.events, run_append_some _ (run_rowSectionToks _ _ _)]
  case list l => cases l.ty <;> simp [Tok.events, nl]
  case footnoteDefinition name total => split <;> simp [Tok.events, nl, *]
  all_goals (try split)
  all_goals simp [Tok.events, nl, mathCodeBlockToks, *]

theorem exit_closing (o : HtmlOpts) (cx : Ctx) (v : NodeValue) (cs : Forest) (st : St) (s : List Bytes) :
    run (closing o cx v cs ++ s) (events (exit o cx v cs st).1) = some s := by
  cases v
  all_goals dsimp only [exit, closing, opened]
  case paragraph =>
    split
    · simp
    · -- only the last paragraph of a footnote definition writes more than `</p>`: the back references
      split
      · split <;> simp [Tok.events, nl, run_append_some _ (run_putBackref _ _ _ _)]
      · simp [Tok.events, nl]
  case footnoteDefinition name total =>
    simp [Tok.events, nl, run_append_some _ (run_putBackref _ _ _ _)]
    split <;> simp [Tok.events]
  case list l => cases l.ty <;> simp [Tok.events, nl]
  case image url title => split <;> (try split) <;> simp [Tok.events, *]
  all_goals (try split)
  all_goals simp [Tok.events, nl, *]

end Comrak
