/-
Positions of canonical documents, layer E: the local facts the proof uses about blocks (`Blk.ph`);
under them the last line of a block is not empty.
-/
import Comrak.Lemmas.CanonPosD
import Comrak.Canon.Ok
namespace Comrak.Canon
open Comrak Bytes

def firstNotSp (s : Bytes) : Bool := match s.head? with | some b => !isSpTab b | none => false

/-- A table cell: inline content on one line in which every `|` is escaped. -/
def cellPh (c : Inls) : Bool := c.ph && nlFree c.src && !hasBarePipe 0 ([0x20] ++ c.src ++ [0x20])

mutual
/-- Local facts about a block the position proof uses; all of them follow from `Doc.ok`:
    no empty line inside a paragraph, heading level / underline / fence / break lengths at least
    1 / 1 / 3 / 3, heading content on one line, setext content not starting with a space, no empty
    line in an HTML block, last line of an indented code block not empty, containers not
    empty, a task marker only before a paragraph, table cells on one line with escaped pipes. -/
def Blk.ph : Blk → Bool
  | .para is => is.ph && allNonempty (splitNl is.src)
  | .heading lv is => decide (1 ≤ lv) && is.ph && nlFree is.src
  | .setext _ n is => decide (1 ≤ n) && is.ph && allNonempty (splitNl is.src) && firstNotSp is.src
  | .hr c n => (c == 0x2A || c == 0x2D || c == 0x5F) && decide (3 ≤ n)
  | .fence _ len _ _ => decide (3 ≤ len)
  | .icode ls => !ls.isEmpty && !(ls.getLastD []).isEmpty
  | .quote bs => !bs.isNil && bs.ph
  | .list _ items => !items.isNil && items.ph
  | .htmlb ls => !ls.isEmpty && allNonempty ls
  | .table al h rows => h.all cellPh && rows.all fun r => r.all cellPh
def Blks.ph : Blks → Bool
  | .nil => true
  | .cons b r => b.ph && r.ph
def Items.ph : Items → Bool
  | .nil => true
  | .cons t bs r => !bs.isNil && bs.ph && (!t.isTask || bs.startsPara) && r.ph
end

theorem itemLines_ne_nil (mk : Bytes) (ls : List Bytes) : itemLines mk ls ≠ [] := by
  cases ls <;> simp [itemLines]

theorem Items.lines_ne_nil (m : Marker) (k : Nat) : ∀ items : Items, items.isNil = false → items.lines m k ≠ []
  | .nil, h => by cases h
  | .cons t bs r, _ => by simp [Items.lines, itemLines_ne_nil]

theorem ne_nil_of_last {ls : List Bytes} (h : ls.getLastD [] ≠ []) : ls ≠ [] := fun e => h (by rw [e]; rfl)

theorem getLastD_append_ne (xs ys : List Bytes) (h : ys ≠ []) : (xs ++ ys).getLastD [] = ys.getLastD [] := by
  rw [List.getLastD_eq_getLast?, List.getLastD_eq_getLast?, List.getLast?_append, List.getLast?_eq_some_getLast h]; rfl

theorem getLastD_map_ne {α : Type} (f : α → Bytes) (d : α) (xs : List α) (h : xs ≠ []) : (xs.map f).getLastD [] = f (xs.getLastD d) := by
  rw [List.getLastD_eq_getLast?, List.getLastD_eq_getLast?, List.getLast?_map, List.getLast?_eq_some_getLast h]; rfl

theorem indent_ne (ind x : Bytes) (hx : x ≠ []) : (if x.isEmpty then [] else ind ++ x) = ind ++ x := by
  cases x with
  | nil => exact absurd rfl hx
  | cons a b => simp

theorem ite_indent_ne (l ind : Bytes) (h : l ≠ []) : (if l.isEmpty then [] else ind ++ l) ≠ [] := by
  rw [indent_ne ind l h]
  exact fun e => h (List.append_eq_nil_iff.mp e).2

theorem last_of_allNonempty : ∀ (ls : List Bytes), ls ≠ [] → allNonempty ls = true → ls.getLastD [] ≠ []
  | [], h, _ => absurd rfl h
  | [x], _, h => ((allNonempty_cons x []).mp h).1
  | x :: y :: t, _, h => by simpa using last_of_allNonempty (y :: t) (by simp) ((allNonempty_cons x _).mp h).2

theorem itemLines_getLastD (mk : Bytes) (t : Task) (x y : Bytes) (r : List Bytes) :
    (itemLines mk (t.mark (x :: y :: r))).getLastD [] =
      if ((y :: r).getLastD []).isEmpty then [] else rep (mk.length + 1) 0x20 ++ (y :: r).getLastD [] := by
  rw [show itemLines mk (t.mark (x :: y :: r)) = [mk ++ [0x20] ++ (t.src ++ x)] ++
      ((y :: r).map fun l => if l.isEmpty then [] else rep (mk.length + 1) 0x20 ++ l) from rfl,
    getLastD_append_ne _ _ (by simp), getLastD_map_ne _ [] _ (by simp)]

theorem splitNl_last_of_all (s : Bytes) (h : allNonempty (splitNl s) = true) : (splitNl s).getLastD [] ≠ [] :=
  last_of_allNonempty _ (splitNl_ne_nil s) h

theorem itemLines_last (mk : Bytes) (t : Task) : ∀ (ls : List Bytes), ls ≠ [] → ls.getLastD [] ≠ [] →
    (itemLines mk (t.mark ls)).getLastD [] ≠ []
  | [], h, _ => absurd rfl h
  | [x], _, _ => by simp [Task.mark, itemLines]
  | x :: y :: r, _, hl => by
    rw [itemLines_getLastD]
    exact ite_indent_ne _ _ (by simpa using hl)

mutual
theorem Blk.last_ne_nil : ∀ b : Blk, b.ph = true → b.lines.getLastD [] ≠ []
  | .para is, h => by
    simp only [Blk.ph, Bool.and_eq_true] at h
    exact splitNl_last_of_all _ h.2
  | .heading .., _ => by simp [Blk.lines]
  | .setext _ n _, h => by
    simp only [Blk.ph, Bool.and_eq_true, decide_eq_true_eq] at h
    obtain ⟨m, rfl⟩ := exists_add_one h.1.1.1
    simp only [Blk.lines]
    rw [getLastD_append_ne _ _ (by simp)]
    simp [rep_succ]
  | .hr _ n, h => by
    simp only [Blk.ph, Bool.and_eq_true, decide_eq_true_eq] at h
    obtain ⟨m, rfl⟩ := exists_add_one h.2
    simp [Blk.lines, rep_succ]
  | .fence _ len _ _, h => by
    simp only [Blk.ph, decide_eq_true_eq] at h
    obtain ⟨m, rfl⟩ := exists_add_one h
    simp only [Blk.lines]
    rw [getLastD_append_ne _ _ (by simp)]
    simp [rep_succ]
  | .icode ls, h => by
    simp only [Blk.ph, Bool.and_eq_true, Bool.not_eq_true', List.isEmpty_eq_false_iff] at h
    simp only [Blk.lines]
    rw [getLastD_map_ne _ [] _ h.1]
    exact ite_indent_ne _ _ h.2
  | .quote bs, h => by
    simp only [Blk.ph, Bool.and_eq_true, Bool.not_eq_true'] at h
    simp only [Blk.lines]
    rw [getLastD_map_ne _ [] _ (ne_nil_of_last (Blks.last_ne_nil bs false h.1 h.2))]
    unfold quoteLine; split <;> simp
  | .list m items, h => by
    simp only [Blk.ph, Bool.and_eq_true, Bool.not_eq_true'] at h
    exact Items.last_ne_nil items m m.start h.1 h.2
  | .htmlb ls, h => by
    simp only [Blk.ph, Bool.and_eq_true, Bool.not_eq_true', List.isEmpty_eq_false_iff] at h
    exact last_of_allNonempty ls h.1 h.2
  | .table al hd rows, _ => by
    simp only [Blk.lines]
    cases rows with
    | nil => simp [rowSrc]
    | cons r rs =>
      rw [getLastD_append_ne _ _ (by simp), getLastD_map_ne _ [] _ (by simp)]
      simp [rowSrc]
theorem Blks.last_ne_nil : ∀ (bs : Blks) (tight : Bool), bs.isNil = false → bs.ph = true → (bs.lines tight).getLastD [] ≠ []
  | .nil, _, h, _ => by cases h
  | .cons b .nil, tight, _, h => by
    simp only [Blks.ph, Bool.and_eq_true] at h
    simpa [Blks.lines, Blks.isNil] using Blk.last_ne_nil b h.1
  | .cons b (.cons b2 r2), tight, _, h => by
    simp only [Blks.ph, Bool.and_eq_true] at h
    have ih := Blks.last_ne_nil (.cons b2 r2) tight rfl (by simpa [Blks.ph] using h.2)
    have hne := ne_nil_of_last ih
    simp only [Blks.lines] at ih hne ⊢
    rw [getLastD_append_ne _ _ hne]
    exact ih
theorem Items.last_ne_nil : ∀ (items : Items) (m : Marker) (k : Nat), items.isNil = false → items.ph = true →
    (items.lines m k).getLastD [] ≠ []
  | .nil, _, _, h, _ => by cases h
  | .cons t bs .nil, m, k, _, h => by
    simp only [Items.ph, Bool.and_eq_true, Bool.not_eq_true'] at h
    simp only [Items.lines, Items.isNil, Bool.or_true, if_true, List.append_nil]
    exact itemLines_last _ t _ (ne_nil_of_last (Blks.last_ne_nil bs m.tight h.1.1.1 h.1.1.2))
      (Blks.last_ne_nil bs m.tight h.1.1.1 h.1.1.2)
  | .cons t bs (.cons t2 bs2 r2), m, k, _, h => by
    simp only [Items.ph, Bool.and_eq_true] at h
    have ih := Items.last_ne_nil (.cons t2 bs2 r2) m (k + 1) rfl (by simpa [Items.ph] using h.2)
    have hne := Items.lines_ne_nil m (k + 1) (.cons t2 bs2 r2) rfl
    simp only [Items.lines] at ih hne ⊢
    rw [getLastD_append_ne _ _ hne]
    exact ih
end

theorem Blk.lines_ne_nil (b : Blk) (h : b.ph = true) : b.lines ≠ [] := ne_nil_of_last (Blk.last_ne_nil b h)

theorem Blks.lines_ne_nil (bs : Blks) (tight : Bool) (hn : bs.isNil = false) (h : bs.ph = true) : bs.lines tight ≠ [] :=
  ne_nil_of_last (Blks.last_ne_nil bs tight hn h)

end Comrak.Canon
