/-
Lemmas about the pure helpers of the CommonMark writer model (Comrak/Cm.lean): the longest run of a
byte, the search for an unused run length, the pending-newline counter.
-/
import Comrak.Cm
namespace Comrak.Cm
open Comrak Bytes

def lead (ch : UInt8) : Bytes → Nat
  | [] => 0
  | c :: r => if c == ch then lead ch r + 1 else 0

theorem longestAux_ge (ch : UInt8) (lit : Bytes) (cur lon : Nat) :
    lon ≤ longestAux ch lit cur lon ∧ cur + lead ch lit ≤ longestAux ch lit cur lon := by
  induction lit generalizing cur lon with
  | nil => simp only [longestAux, lead]; split <;> omega
  | cons c r ih =>
    simp only [longestAux, lead]
    split
    · have := ih (cur + 1) lon; omega
    · have := (ih 0 (if cur > lon then cur else lon)).1
      by_cases h : cur > lon <;> simp only [h, if_true, if_false] at this ⊢ <;> omega

theorem prefix_replicate_le_lead (ch : UInt8) (k : Nat) (lit : Bytes)
    (h : List.replicate k ch <+: lit) : k ≤ lead ch lit := by
  induction k generalizing lit with
  | zero => omega
  | succ n ih =>
    cases lit with
    | nil => simp [List.replicate_succ] at h
    | cons c r =>
      rw [List.replicate_succ, List.cons_prefix_cons] at h
      obtain ⟨hc, hr⟩ := h
      have := ih r hr
      simp [lead, ← hc]; omega

theorem longestAux_ge_infix (ch : UInt8) (k : Nat) (lit : Bytes) (cur lon : Nat)
    (h : List.replicate k ch <:+: lit) : k ≤ longestAux ch lit cur lon := by
  induction lit generalizing cur lon with
  | nil =>
    have : List.replicate k ch = [] := List.eq_nil_of_infix_nil h
    have : k = 0 := by cases k <;> simp_all [List.replicate_succ]
    omega
  | cons c r ih =>
    rcases List.infix_cons_iff.mp h with hp | hi
    · have h1 := prefix_replicate_le_lead ch k (c :: r) hp
      have h2 := (longestAux_ge ch (c :: r) cur lon).2
      omega
    · simp only [longestAux]
      split
      · exact ih _ _ hi
      · exact ih _ _ hi

theorem mem_usedAux (ch : UInt8) (lit : Bytes) (cur : Nat) (used : List Nat) (n : Nat) :
    n ∈ usedAux ch lit cur used ↔ n ∈ used ∨ (n ∈ runsAux ch lit cur ∧ n < 32) := by
  induction lit generalizing cur used with
  | nil =>
    simp only [usedAux, runsAux]
    by_cases h0 : cur > 0 <;> by_cases h32 : cur < 32 <;> simp [h0, h32]
    · constructor
      · rintro (rfl | h)
        · exact Or.inr ⟨rfl, h32⟩
        · exact Or.inl h
      · rintro (h | ⟨rfl, _⟩)
        · exact Or.inr h
        · exact Or.inl rfl
    · intro h1 h2; subst h1; omega
  | cons c r ih =>
    simp only [usedAux, runsAux]
    split
    · exact ih _ _
    · rw [ih]
      by_cases h0 : cur > 0 <;> by_cases h32 : cur < 32 <;> simp [h0, h32]
      · constructor
        · rintro ((rfl | h) | h)
          · exact Or.inr ⟨Or.inl rfl, h32⟩
          · exact Or.inl h
          · exact Or.inr ⟨Or.inr h.1, h.2⟩
        · rintro (h | ⟨rfl | h, h2⟩)
          · exact Or.inl (Or.inr h)
          · exact Or.inl (Or.inl rfl)
          · exact Or.inr ⟨h, h2⟩
      · constructor
        · rintro (h | h)
          · exact Or.inl h
          · exact Or.inr ⟨Or.inr h.1, h.2⟩
        · rintro (h | ⟨rfl | h, h2⟩)
          · exact Or.inl h
          · omega
          · exact Or.inr ⟨h, h2⟩

theorem runsAux_pos (ch : UInt8) (lit : Bytes) (cur : Nat) : ∀ n ∈ runsAux ch lit cur, 0 < n := by
  induction lit generalizing cur with
  | nil =>
    intro n hn
    simp only [runsAux] at hn
    split at hn
    · simp at hn; omega
    · simp at hn
  | cons c r ih =>
    intro n hn
    simp only [runsAux] at hn
    split at hn
    · exact ih _ n hn
    · split at hn
      · rcases List.mem_cons.mp hn with rfl | h
        · assumption
        · exact ih _ n h
      · exact ih _ n hn

/-- The search loop stops at the first index that is not (0 or recorded), at 32 at the latest. -/
theorem firstUnused_spec (used : List Nat) (fuel i : Nat) (h : 33 ≤ i + fuel) :
    i ≤ firstUnused used fuel i ∧ firstUnused used fuel i ≤ max i 32 ∧
    ¬ (firstUnused used fuel i < 32 ∧ (firstUnused used fuel i = 0 ∨ firstUnused used fuel i ∈ used)) := by
  induction fuel generalizing i with
  | zero => simp only [firstUnused]; omega
  | succ f ih =>
    simp only [firstUnused]
    split
    · rename_i hc
      obtain ⟨h1, h2, h3⟩ := ih (i + 1) (by omega)
      simp only [Bool.and_eq_true, decide_eq_true_eq] at hc
      exact ⟨by omega, by omega, h3⟩
    · rename_i hc
      refine ⟨Nat.le_refl _, by omega, ?_⟩
      intro ⟨h1, h2⟩
      apply hc
      simp only [Bool.and_eq_true, decide_eq_true_eq, Bool.or_eq_true, beq_iff_eq, List.contains_iff_mem]
      exact ⟨h1, h2⟩

theorem firstUnused_min (used : List Nat) (fuel i m : Nat) (hm : i ≤ m) (hlt : m < firstUnused used fuel i) :
    m < 32 ∧ (m = 0 ∨ m ∈ used) := by
  induction fuel generalizing i with
  | zero => simp only [firstUnused] at hlt; omega
  | succ f ih =>
    simp only [firstUnused] at hlt
    split at hlt
    · rename_i hc
      by_cases hmi : m = i
      · subst hmi
        simpa only [Bool.and_eq_true, decide_eq_true_eq, Bool.or_eq_true, beq_iff_eq, List.contains_iff_mem] using hc
      · exact ih (i + 1) (by omega) hlt
    · omega

theorem cr_needCr_mono (st : St) : st.needCr ≤ st.cr.needCr := by simp [St.cr]; omega
theorem blankline_needCr_mono (st : St) : st.needCr ≤ st.blankline.needCr := by simp [St.blankline]; omega

theorem renderCm_open_line (o : CmOpts) (t : Tree) (hne : (renderT o {} t {}).rv ≠ [])
    (hd : (renderT o {} t {}).rv.head? ≠ some 0x0A) :
    renderCm o t = (renderT o {} t {}).rv.reverse ++ [0x0A] := by
  cases hr : (renderT o {} t {}).rv with
  | nil => exact absurd hr hne
  | cons c r =>
    have hc : (c == 0x0A) = false := by
      rw [hr] at hd
      simpa using hd
    simp [renderCm, hr, hc]

end Comrak.Cm
