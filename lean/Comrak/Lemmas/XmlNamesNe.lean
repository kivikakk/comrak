/- GENERATED by scripts/gen_xml_names.py; do not edit. -/
import Comrak.XmlNames
namespace Comrak.XS

theorem ne_a_xmlns_a_sourcepos : (a_xmlns == a_sourcepos) = false := by decide
theorem ne_a_xmlns_a_type : (a_xmlns == a_type) = false := by decide
theorem ne_a_xmlns_a_start : (a_xmlns == a_start) = false := by decide
theorem ne_a_xmlns_a_delim : (a_xmlns == a_delim) = false := by decide
theorem ne_a_xmlns_a_tasklist : (a_xmlns == a_tasklist) = false := by decide
theorem ne_a_xmlns_a_tight : (a_xmlns == a_tight) = false := by decide
theorem ne_a_xmlns_a_level : (a_xmlns == a_level) = false := by decide
theorem ne_a_xmlns_a_info : (a_xmlns == a_info) = false := by decide
theorem ne_a_xmlns_a_math_style : (a_xmlns == a_math_style) = false := by decide
theorem ne_a_xmlns_a_destination : (a_xmlns == a_destination) = false := by decide
theorem ne_a_xmlns_a_title : (a_xmlns == a_title) = false := by decide
theorem ne_a_xmlns_a_align : (a_xmlns == a_align) = false := by decide
theorem ne_a_xmlns_a_label : (a_xmlns == a_label) = false := by decide
theorem ne_a_xmlns_a_completed : (a_xmlns == a_completed) = false := by decide
theorem ne_a_xmlns_a_multiline : (a_xmlns == a_multiline) = false := by decide
theorem ne_a_xmlns_a_tag : (a_xmlns == a_tag) = false := by decide
theorem ne_a_xml_space_a_xmlns : (a_xml_space == a_xmlns) = false := by decide
theorem ne_a_xml_space_a_sourcepos : (a_xml_space == a_sourcepos) = false := by decide
theorem ne_a_xml_space_a_type : (a_xml_space == a_type) = false := by decide
theorem ne_a_xml_space_a_start : (a_xml_space == a_start) = false := by decide
theorem ne_a_xml_space_a_delim : (a_xml_space == a_delim) = false := by decide
theorem ne_a_xml_space_a_tasklist : (a_xml_space == a_tasklist) = false := by decide
theorem ne_a_xml_space_a_tight : (a_xml_space == a_tight) = false := by decide
theorem ne_a_xml_space_a_level : (a_xml_space == a_level) = false := by decide
theorem ne_a_xml_space_a_info : (a_xml_space == a_info) = false := by decide
theorem ne_a_xml_space_a_math_style : (a_xml_space == a_math_style) = false := by decide
theorem ne_a_xml_space_a_destination : (a_xml_space == a_destination) = false := by decide
theorem ne_a_xml_space_a_title : (a_xml_space == a_title) = false := by decide
theorem ne_a_xml_space_a_align : (a_xml_space == a_align) = false := by decide
theorem ne_a_xml_space_a_label : (a_xml_space == a_label) = false := by decide
theorem ne_a_xml_space_a_completed : (a_xml_space == a_completed) = false := by decide
theorem ne_a_xml_space_a_multiline : (a_xml_space == a_multiline) = false := by decide
theorem ne_a_xml_space_a_tag : (a_xml_space == a_tag) = false := by decide
@[simp] theorem ne_a_sourcepos_a_xmlns : (a_sourcepos == a_xmlns) = false := by decide
@[simp] theorem ne_a_sourcepos_a_xml_space : (a_sourcepos == a_xml_space) = false := by decide
@[simp] theorem ne_a_sourcepos_a_type : (a_sourcepos == a_type) = false := by decide
@[simp] theorem ne_a_sourcepos_a_start : (a_sourcepos == a_start) = false := by decide
@[simp] theorem ne_a_sourcepos_a_delim : (a_sourcepos == a_delim) = false := by decide
@[simp] theorem ne_a_sourcepos_a_tasklist : (a_sourcepos == a_tasklist) = false := by decide
@[simp] theorem ne_a_sourcepos_a_tight : (a_sourcepos == a_tight) = false := by decide
@[simp] theorem ne_a_sourcepos_a_level : (a_sourcepos == a_level) = false := by decide
@[simp] theorem ne_a_sourcepos_a_info : (a_sourcepos == a_info) = false := by decide
@[simp] theorem ne_a_sourcepos_a_math_style : (a_sourcepos == a_math_style) = false := by decide
@[simp] theorem ne_a_sourcepos_a_destination : (a_sourcepos == a_destination) = false := by decide
@[simp] theorem ne_a_sourcepos_a_title : (a_sourcepos == a_title) = false := by decide
@[simp] theorem ne_a_sourcepos_a_align : (a_sourcepos == a_align) = false := by decide
@[simp] theorem ne_a_sourcepos_a_label : (a_sourcepos == a_label) = false := by decide
@[simp] theorem ne_a_sourcepos_a_completed : (a_sourcepos == a_completed) = false := by decide
@[simp] theorem ne_a_sourcepos_a_multiline : (a_sourcepos == a_multiline) = false := by decide
@[simp] theorem ne_a_sourcepos_a_tag : (a_sourcepos == a_tag) = false := by decide
theorem ne_a_type_a_xmlns : (a_type == a_xmlns) = false := by decide
theorem ne_a_type_a_sourcepos : (a_type == a_sourcepos) = false := by decide
@[simp] theorem ne_a_type_a_start : (a_type == a_start) = false := by decide
@[simp] theorem ne_a_type_a_delim : (a_type == a_delim) = false := by decide
@[simp] theorem ne_a_type_a_tasklist : (a_type == a_tasklist) = false := by decide
@[simp] theorem ne_a_type_a_tight : (a_type == a_tight) = false := by decide
theorem ne_a_type_a_level : (a_type == a_level) = false := by decide
theorem ne_a_type_a_info : (a_type == a_info) = false := by decide
theorem ne_a_type_a_math_style : (a_type == a_math_style) = false := by decide
theorem ne_a_type_a_destination : (a_type == a_destination) = false := by decide
@[simp] theorem ne_a_type_a_title : (a_type == a_title) = false := by decide
theorem ne_a_type_a_align : (a_type == a_align) = false := by decide
theorem ne_a_type_a_label : (a_type == a_label) = false := by decide
theorem ne_a_type_a_completed : (a_type == a_completed) = false := by decide
@[simp] theorem ne_a_type_a_multiline : (a_type == a_multiline) = false := by decide
theorem ne_a_type_a_tag : (a_type == a_tag) = false := by decide
theorem ne_a_start_a_xmlns : (a_start == a_xmlns) = false := by decide
theorem ne_a_start_a_sourcepos : (a_start == a_sourcepos) = false := by decide
theorem ne_a_start_a_type : (a_start == a_type) = false := by decide
@[simp] theorem ne_a_start_a_delim : (a_start == a_delim) = false := by decide
@[simp] theorem ne_a_start_a_tasklist : (a_start == a_tasklist) = false := by decide
@[simp] theorem ne_a_start_a_tight : (a_start == a_tight) = false := by decide
theorem ne_a_start_a_level : (a_start == a_level) = false := by decide
theorem ne_a_start_a_info : (a_start == a_info) = false := by decide
theorem ne_a_start_a_math_style : (a_start == a_math_style) = false := by decide
theorem ne_a_start_a_destination : (a_start == a_destination) = false := by decide
theorem ne_a_start_a_title : (a_start == a_title) = false := by decide
theorem ne_a_start_a_align : (a_start == a_align) = false := by decide
theorem ne_a_start_a_label : (a_start == a_label) = false := by decide
theorem ne_a_start_a_completed : (a_start == a_completed) = false := by decide
theorem ne_a_start_a_multiline : (a_start == a_multiline) = false := by decide
theorem ne_a_start_a_tag : (a_start == a_tag) = false := by decide
theorem ne_a_delim_a_xmlns : (a_delim == a_xmlns) = false := by decide
theorem ne_a_delim_a_sourcepos : (a_delim == a_sourcepos) = false := by decide
theorem ne_a_delim_a_type : (a_delim == a_type) = false := by decide
theorem ne_a_delim_a_start : (a_delim == a_start) = false := by decide
@[simp] theorem ne_a_delim_a_tasklist : (a_delim == a_tasklist) = false := by decide
@[simp] theorem ne_a_delim_a_tight : (a_delim == a_tight) = false := by decide
theorem ne_a_delim_a_level : (a_delim == a_level) = false := by decide
theorem ne_a_delim_a_info : (a_delim == a_info) = false := by decide
theorem ne_a_delim_a_math_style : (a_delim == a_math_style) = false := by decide
theorem ne_a_delim_a_destination : (a_delim == a_destination) = false := by decide
theorem ne_a_delim_a_title : (a_delim == a_title) = false := by decide
theorem ne_a_delim_a_align : (a_delim == a_align) = false := by decide
theorem ne_a_delim_a_label : (a_delim == a_label) = false := by decide
theorem ne_a_delim_a_completed : (a_delim == a_completed) = false := by decide
theorem ne_a_delim_a_multiline : (a_delim == a_multiline) = false := by decide
theorem ne_a_delim_a_tag : (a_delim == a_tag) = false := by decide
theorem ne_a_tasklist_a_xmlns : (a_tasklist == a_xmlns) = false := by decide
theorem ne_a_tasklist_a_sourcepos : (a_tasklist == a_sourcepos) = false := by decide
theorem ne_a_tasklist_a_type : (a_tasklist == a_type) = false := by decide
theorem ne_a_tasklist_a_start : (a_tasklist == a_start) = false := by decide
theorem ne_a_tasklist_a_delim : (a_tasklist == a_delim) = false := by decide
@[simp] theorem ne_a_tasklist_a_tight : (a_tasklist == a_tight) = false := by decide
theorem ne_a_tasklist_a_level : (a_tasklist == a_level) = false := by decide
theorem ne_a_tasklist_a_info : (a_tasklist == a_info) = false := by decide
theorem ne_a_tasklist_a_math_style : (a_tasklist == a_math_style) = false := by decide
theorem ne_a_tasklist_a_destination : (a_tasklist == a_destination) = false := by decide
theorem ne_a_tasklist_a_title : (a_tasklist == a_title) = false := by decide
theorem ne_a_tasklist_a_align : (a_tasklist == a_align) = false := by decide
theorem ne_a_tasklist_a_label : (a_tasklist == a_label) = false := by decide
theorem ne_a_tasklist_a_completed : (a_tasklist == a_completed) = false := by decide
theorem ne_a_tasklist_a_multiline : (a_tasklist == a_multiline) = false := by decide
theorem ne_a_tasklist_a_tag : (a_tasklist == a_tag) = false := by decide
theorem ne_a_tight_a_xmlns : (a_tight == a_xmlns) = false := by decide
theorem ne_a_tight_a_sourcepos : (a_tight == a_sourcepos) = false := by decide
theorem ne_a_tight_a_type : (a_tight == a_type) = false := by decide
theorem ne_a_tight_a_start : (a_tight == a_start) = false := by decide
theorem ne_a_tight_a_delim : (a_tight == a_delim) = false := by decide
theorem ne_a_tight_a_tasklist : (a_tight == a_tasklist) = false := by decide
theorem ne_a_tight_a_level : (a_tight == a_level) = false := by decide
theorem ne_a_tight_a_info : (a_tight == a_info) = false := by decide
theorem ne_a_tight_a_math_style : (a_tight == a_math_style) = false := by decide
theorem ne_a_tight_a_destination : (a_tight == a_destination) = false := by decide
theorem ne_a_tight_a_title : (a_tight == a_title) = false := by decide
theorem ne_a_tight_a_align : (a_tight == a_align) = false := by decide
theorem ne_a_tight_a_label : (a_tight == a_label) = false := by decide
theorem ne_a_tight_a_completed : (a_tight == a_completed) = false := by decide
theorem ne_a_tight_a_multiline : (a_tight == a_multiline) = false := by decide
theorem ne_a_tight_a_tag : (a_tight == a_tag) = false := by decide
theorem ne_a_level_a_xmlns : (a_level == a_xmlns) = false := by decide
theorem ne_a_level_a_sourcepos : (a_level == a_sourcepos) = false := by decide
theorem ne_a_level_a_type : (a_level == a_type) = false := by decide
theorem ne_a_level_a_start : (a_level == a_start) = false := by decide
theorem ne_a_level_a_delim : (a_level == a_delim) = false := by decide
theorem ne_a_level_a_tasklist : (a_level == a_tasklist) = false := by decide
theorem ne_a_level_a_tight : (a_level == a_tight) = false := by decide
theorem ne_a_level_a_info : (a_level == a_info) = false := by decide
theorem ne_a_level_a_math_style : (a_level == a_math_style) = false := by decide
theorem ne_a_level_a_destination : (a_level == a_destination) = false := by decide
theorem ne_a_level_a_title : (a_level == a_title) = false := by decide
theorem ne_a_level_a_align : (a_level == a_align) = false := by decide
theorem ne_a_level_a_label : (a_level == a_label) = false := by decide
theorem ne_a_level_a_completed : (a_level == a_completed) = false := by decide
theorem ne_a_level_a_multiline : (a_level == a_multiline) = false := by decide
theorem ne_a_level_a_tag : (a_level == a_tag) = false := by decide
theorem ne_a_info_a_xmlns : (a_info == a_xmlns) = false := by decide
@[simp] theorem ne_a_info_a_xml_space : (a_info == a_xml_space) = false := by decide
theorem ne_a_info_a_sourcepos : (a_info == a_sourcepos) = false := by decide
theorem ne_a_info_a_type : (a_info == a_type) = false := by decide
theorem ne_a_info_a_start : (a_info == a_start) = false := by decide
theorem ne_a_info_a_delim : (a_info == a_delim) = false := by decide
theorem ne_a_info_a_tasklist : (a_info == a_tasklist) = false := by decide
theorem ne_a_info_a_tight : (a_info == a_tight) = false := by decide
theorem ne_a_info_a_level : (a_info == a_level) = false := by decide
@[simp] theorem ne_a_info_a_math_style : (a_info == a_math_style) = false := by decide
theorem ne_a_info_a_destination : (a_info == a_destination) = false := by decide
theorem ne_a_info_a_title : (a_info == a_title) = false := by decide
theorem ne_a_info_a_align : (a_info == a_align) = false := by decide
theorem ne_a_info_a_label : (a_info == a_label) = false := by decide
theorem ne_a_info_a_completed : (a_info == a_completed) = false := by decide
theorem ne_a_info_a_multiline : (a_info == a_multiline) = false := by decide
theorem ne_a_info_a_tag : (a_info == a_tag) = false := by decide
theorem ne_a_math_style_a_xmlns : (a_math_style == a_xmlns) = false := by decide
@[simp] theorem ne_a_math_style_a_xml_space : (a_math_style == a_xml_space) = false := by decide
theorem ne_a_math_style_a_sourcepos : (a_math_style == a_sourcepos) = false := by decide
theorem ne_a_math_style_a_type : (a_math_style == a_type) = false := by decide
theorem ne_a_math_style_a_start : (a_math_style == a_start) = false := by decide
theorem ne_a_math_style_a_delim : (a_math_style == a_delim) = false := by decide
theorem ne_a_math_style_a_tasklist : (a_math_style == a_tasklist) = false := by decide
theorem ne_a_math_style_a_tight : (a_math_style == a_tight) = false := by decide
theorem ne_a_math_style_a_level : (a_math_style == a_level) = false := by decide
theorem ne_a_math_style_a_info : (a_math_style == a_info) = false := by decide
theorem ne_a_math_style_a_destination : (a_math_style == a_destination) = false := by decide
theorem ne_a_math_style_a_title : (a_math_style == a_title) = false := by decide
theorem ne_a_math_style_a_align : (a_math_style == a_align) = false := by decide
theorem ne_a_math_style_a_label : (a_math_style == a_label) = false := by decide
theorem ne_a_math_style_a_completed : (a_math_style == a_completed) = false := by decide
theorem ne_a_math_style_a_multiline : (a_math_style == a_multiline) = false := by decide
theorem ne_a_math_style_a_tag : (a_math_style == a_tag) = false := by decide
theorem ne_a_destination_a_xmlns : (a_destination == a_xmlns) = false := by decide
theorem ne_a_destination_a_sourcepos : (a_destination == a_sourcepos) = false := by decide
theorem ne_a_destination_a_type : (a_destination == a_type) = false := by decide
theorem ne_a_destination_a_start : (a_destination == a_start) = false := by decide
theorem ne_a_destination_a_delim : (a_destination == a_delim) = false := by decide
theorem ne_a_destination_a_tasklist : (a_destination == a_tasklist) = false := by decide
theorem ne_a_destination_a_tight : (a_destination == a_tight) = false := by decide
theorem ne_a_destination_a_level : (a_destination == a_level) = false := by decide
theorem ne_a_destination_a_info : (a_destination == a_info) = false := by decide
theorem ne_a_destination_a_math_style : (a_destination == a_math_style) = false := by decide
@[simp] theorem ne_a_destination_a_title : (a_destination == a_title) = false := by decide
theorem ne_a_destination_a_align : (a_destination == a_align) = false := by decide
theorem ne_a_destination_a_label : (a_destination == a_label) = false := by decide
theorem ne_a_destination_a_completed : (a_destination == a_completed) = false := by decide
theorem ne_a_destination_a_multiline : (a_destination == a_multiline) = false := by decide
theorem ne_a_destination_a_tag : (a_destination == a_tag) = false := by decide
theorem ne_a_title_a_xmlns : (a_title == a_xmlns) = false := by decide
theorem ne_a_title_a_sourcepos : (a_title == a_sourcepos) = false := by decide
theorem ne_a_title_a_type : (a_title == a_type) = false := by decide
theorem ne_a_title_a_start : (a_title == a_start) = false := by decide
theorem ne_a_title_a_delim : (a_title == a_delim) = false := by decide
theorem ne_a_title_a_tasklist : (a_title == a_tasklist) = false := by decide
theorem ne_a_title_a_tight : (a_title == a_tight) = false := by decide
theorem ne_a_title_a_level : (a_title == a_level) = false := by decide
theorem ne_a_title_a_info : (a_title == a_info) = false := by decide
theorem ne_a_title_a_math_style : (a_title == a_math_style) = false := by decide
theorem ne_a_title_a_destination : (a_title == a_destination) = false := by decide
theorem ne_a_title_a_align : (a_title == a_align) = false := by decide
theorem ne_a_title_a_label : (a_title == a_label) = false := by decide
theorem ne_a_title_a_completed : (a_title == a_completed) = false := by decide
@[simp] theorem ne_a_title_a_multiline : (a_title == a_multiline) = false := by decide
theorem ne_a_title_a_tag : (a_title == a_tag) = false := by decide
theorem ne_a_align_a_xmlns : (a_align == a_xmlns) = false := by decide
theorem ne_a_align_a_sourcepos : (a_align == a_sourcepos) = false := by decide
theorem ne_a_align_a_type : (a_align == a_type) = false := by decide
theorem ne_a_align_a_start : (a_align == a_start) = false := by decide
theorem ne_a_align_a_delim : (a_align == a_delim) = false := by decide
theorem ne_a_align_a_tasklist : (a_align == a_tasklist) = false := by decide
theorem ne_a_align_a_tight : (a_align == a_tight) = false := by decide
theorem ne_a_align_a_level : (a_align == a_level) = false := by decide
theorem ne_a_align_a_info : (a_align == a_info) = false := by decide
theorem ne_a_align_a_math_style : (a_align == a_math_style) = false := by decide
theorem ne_a_align_a_destination : (a_align == a_destination) = false := by decide
theorem ne_a_align_a_title : (a_align == a_title) = false := by decide
theorem ne_a_align_a_label : (a_align == a_label) = false := by decide
theorem ne_a_align_a_completed : (a_align == a_completed) = false := by decide
theorem ne_a_align_a_multiline : (a_align == a_multiline) = false := by decide
theorem ne_a_align_a_tag : (a_align == a_tag) = false := by decide
theorem ne_a_label_a_xmlns : (a_label == a_xmlns) = false := by decide
theorem ne_a_label_a_sourcepos : (a_label == a_sourcepos) = false := by decide
theorem ne_a_label_a_type : (a_label == a_type) = false := by decide
theorem ne_a_label_a_start : (a_label == a_start) = false := by decide
theorem ne_a_label_a_delim : (a_label == a_delim) = false := by decide
theorem ne_a_label_a_tasklist : (a_label == a_tasklist) = false := by decide
theorem ne_a_label_a_tight : (a_label == a_tight) = false := by decide
theorem ne_a_label_a_level : (a_label == a_level) = false := by decide
theorem ne_a_label_a_info : (a_label == a_info) = false := by decide
theorem ne_a_label_a_math_style : (a_label == a_math_style) = false := by decide
theorem ne_a_label_a_destination : (a_label == a_destination) = false := by decide
theorem ne_a_label_a_title : (a_label == a_title) = false := by decide
theorem ne_a_label_a_align : (a_label == a_align) = false := by decide
theorem ne_a_label_a_completed : (a_label == a_completed) = false := by decide
theorem ne_a_label_a_multiline : (a_label == a_multiline) = false := by decide
theorem ne_a_label_a_tag : (a_label == a_tag) = false := by decide
theorem ne_a_completed_a_xmlns : (a_completed == a_xmlns) = false := by decide
theorem ne_a_completed_a_sourcepos : (a_completed == a_sourcepos) = false := by decide
theorem ne_a_completed_a_type : (a_completed == a_type) = false := by decide
theorem ne_a_completed_a_start : (a_completed == a_start) = false := by decide
theorem ne_a_completed_a_delim : (a_completed == a_delim) = false := by decide
theorem ne_a_completed_a_tasklist : (a_completed == a_tasklist) = false := by decide
theorem ne_a_completed_a_tight : (a_completed == a_tight) = false := by decide
theorem ne_a_completed_a_level : (a_completed == a_level) = false := by decide
theorem ne_a_completed_a_info : (a_completed == a_info) = false := by decide
theorem ne_a_completed_a_math_style : (a_completed == a_math_style) = false := by decide
theorem ne_a_completed_a_destination : (a_completed == a_destination) = false := by decide
theorem ne_a_completed_a_title : (a_completed == a_title) = false := by decide
theorem ne_a_completed_a_align : (a_completed == a_align) = false := by decide
theorem ne_a_completed_a_label : (a_completed == a_label) = false := by decide
theorem ne_a_completed_a_multiline : (a_completed == a_multiline) = false := by decide
theorem ne_a_completed_a_tag : (a_completed == a_tag) = false := by decide
theorem ne_a_multiline_a_xmlns : (a_multiline == a_xmlns) = false := by decide
theorem ne_a_multiline_a_sourcepos : (a_multiline == a_sourcepos) = false := by decide
theorem ne_a_multiline_a_type : (a_multiline == a_type) = false := by decide
theorem ne_a_multiline_a_start : (a_multiline == a_start) = false := by decide
theorem ne_a_multiline_a_delim : (a_multiline == a_delim) = false := by decide
theorem ne_a_multiline_a_tasklist : (a_multiline == a_tasklist) = false := by decide
theorem ne_a_multiline_a_tight : (a_multiline == a_tight) = false := by decide
theorem ne_a_multiline_a_level : (a_multiline == a_level) = false := by decide
theorem ne_a_multiline_a_info : (a_multiline == a_info) = false := by decide
theorem ne_a_multiline_a_math_style : (a_multiline == a_math_style) = false := by decide
theorem ne_a_multiline_a_destination : (a_multiline == a_destination) = false := by decide
theorem ne_a_multiline_a_title : (a_multiline == a_title) = false := by decide
theorem ne_a_multiline_a_align : (a_multiline == a_align) = false := by decide
theorem ne_a_multiline_a_label : (a_multiline == a_label) = false := by decide
theorem ne_a_multiline_a_completed : (a_multiline == a_completed) = false := by decide
theorem ne_a_multiline_a_tag : (a_multiline == a_tag) = false := by decide
theorem ne_a_tag_a_xmlns : (a_tag == a_xmlns) = false := by decide
theorem ne_a_tag_a_sourcepos : (a_tag == a_sourcepos) = false := by decide
theorem ne_a_tag_a_type : (a_tag == a_type) = false := by decide
theorem ne_a_tag_a_start : (a_tag == a_start) = false := by decide
theorem ne_a_tag_a_delim : (a_tag == a_delim) = false := by decide
theorem ne_a_tag_a_tasklist : (a_tag == a_tasklist) = false := by decide
theorem ne_a_tag_a_tight : (a_tag == a_tight) = false := by decide
theorem ne_a_tag_a_level : (a_tag == a_level) = false := by decide
theorem ne_a_tag_a_info : (a_tag == a_info) = false := by decide
theorem ne_a_tag_a_math_style : (a_tag == a_math_style) = false := by decide
theorem ne_a_tag_a_destination : (a_tag == a_destination) = false := by decide
theorem ne_a_tag_a_title : (a_tag == a_title) = false := by decide
theorem ne_a_tag_a_align : (a_tag == a_align) = false := by decide
theorem ne_a_tag_a_label : (a_tag == a_label) = false := by decide
theorem ne_a_tag_a_completed : (a_tag == a_completed) = false := by decide
theorem ne_a_tag_a_multiline : (a_tag == a_multiline) = false := by decide

end Comrak.XS
