/-
C06 helper lemmas: an upper bound on what the HTML formatter model writes, token by token.
`tokSize` over-approximates `Tok.spell` (6 bytes per escaped byte, the rest exactly).
-/
import Comrak.Html
import Comrak.Lemmas.CostNames
import Comrak.Lemmas.Escape
namespace Comrak.HtmlSize
open Comrak Bytes

/-! `tot` is the sum of `sz` over a list (`h0`, `hc`): it is additive, and it bounds what a `flatMap` writes when `sz`
bounds what is written per element. -/

theorem total_append {α : Type} {tot : List α → Nat} {sz : α → Nat} (h0 : tot [] = 0)
    (hc : ∀ a r, tot (a :: r) = sz a + tot r) (a b : List α) : tot (a ++ b) = tot a + tot b := by
  induction a with
  | nil => simp [h0]
  | cons p r ih => simp only [List.cons_append, hc, ih]; omega

theorem flatMap_len_le_total {α : Type} {tot : List α → Nat} {sz : α → Nat} (f : α → Bytes) (h0 : tot [] = 0)
    (hc : ∀ a r, tot (a :: r) = sz a + tot r) (h : ∀ a, (f a).length ≤ sz a) (l : List α) :
    (l.flatMap f).length ≤ tot l := by
  induction l with
  | nil => simp [h0]
  | cons a r ih =>
    have := h a
    simp only [List.flatMap_cons, List.length_append, hc]; omega

theorem escByte_len (b : UInt8) : 1 ≤ (escByte b).length ∧ (escByte b).length ≤ 6 :=
  escByte_cases (P := fun _ out => 1 ≤ out.length ∧ out.length ≤ 6) (by decide) (by decide) (by decide) (by decide)
    (fun _ _ _ _ _ => by simp) b

theorem hrefByte_len (b : UInt8) : (hrefByte b).length ≤ 6 :=
  hrefByte_cases (P := fun _ out => out.length ≤ 6) (fun _ _ => by simp) (by decide) (by decide)
    (fun _ _ _ _ => by simp [pctByte]) b

theorem flatMap_len_le (f : UInt8 → Bytes) (k : Nat) (h : ∀ b, (f b).length ≤ k) (l : Bytes) :
    (l.flatMap f).length ≤ k * l.length :=
  flatMap_len_le_total (tot := fun l => k * l.length) (sz := fun _ => k) f rfl
    (fun _ r => by simp only [List.length_cons, Nat.mul_succ]; omega) h l

theorem escape_len (b : Bytes) : (escape b).length ≤ 6 * b.length :=
  flatMap_len_le escByte 6 (fun b => (escByte_len b).2) b
theorem escapeHref_len (b : Bytes) : (escapeHref b).length ≤ 6 * b.length := flatMap_len_le hrefByte 6 hrefByte_len b

def partSize : APart → Nat
  | .esc v => 6 * v.length
  | .href v => 6 * v.length
  | .lit v => v.length

def partsSize : List APart → Nat
  | [] => 0
  | p :: r => partSize p + partsSize r

def attrSize (a : Attr) : Nat :=
  match a.val with
  | none => 1 + a.name.length
  | some ps => 4 + a.name.length + partsSize ps

def attrsSize : List Attr → Nat
  | [] => 0
  | a :: r => attrSize a + attrsSize r

def tokSize : Tok → Nat
  | .op n as => 2 + n.length + attrsSize as
  | .cl n => 3 + n.length
  | .vd n as => 4 + n.length + attrsSize as
  | .txt v => 6 * v.length
  | .lit v => v.length
  | .raw v => v.length
  | .cmt => 25

def toksSize : List Tok → Nat
  | [] => 0
  | t :: r => tokSize t + toksSize r

theorem partsSize_append (a b : List APart) : partsSize (a ++ b) = partsSize a + partsSize b :=
  total_append (sz := partSize) rfl (fun _ _ => rfl) a b

theorem attrsSize_append (a b : List Attr) : attrsSize (a ++ b) = attrsSize a + attrsSize b :=
  total_append (sz := attrSize) rfl (fun _ _ => rfl) a b

theorem toksSize_append (a b : List Tok) : toksSize (a ++ b) = toksSize a + toksSize b :=
  total_append (sz := tokSize) rfl (fun _ _ => rfl) a b

theorem spellVal_le (ps : List APart) : (spellVal ps).length ≤ partsSize ps := by
  refine flatMap_len_le_total (sz := partSize) APart.spell rfl (fun _ _ => rfl) (fun p => ?_) ps
  cases p with
  | esc v => exact escape_len v
  | href v => exact escapeHref_len v
  | lit v => exact Nat.le_refl _

theorem spellAttrs_le (as : List Attr) : (spellAttrs as).length ≤ attrsSize as := by
  refine flatMap_len_le_total (sz := attrSize) Attr.spell rfl (fun _ _ => rfl) (fun a => ?_) as
  unfold Attr.spell attrSize
  cases a.val with
  | none => simp; omega
  | some ps => have := spellVal_le ps; simp; omega

theorem spell_le_size (ts : List Tok) : (spell ts).length ≤ toksSize ts := by
  refine flatMap_len_le_total (sz := tokSize) Tok.spell rfl (fun _ _ => rfl) (fun t => ?_) ts
  cases t with
  | op n as | vd n as => have := spellAttrs_le as; simp [Tok.spell, tokSize]; omega
  | cl n => simp [Tok.spell, tokSize]; omega
  | txt v => exact escape_len v
  | lit v | raw v | cmt => simp [Tok.spell, tokSize]

theorem size_seq (a b : W) (st : St) : toksSize ((a ⨟ b) st).1 = toksSize (a st).1 + toksSize (b (a st).2).1 := by
  simp [W.seq, toksSize_append]

theorem size_emit (ts : List Tok) (st : St) : toksSize (W.emit ts st).1 = toksSize ts := rfl
theorem size_nop (st : St) : toksSize (W.nop st).1 = 0 := rfl

def wBound (w : W) (n : Nat) : Prop := ∀ st, toksSize (w st).1 ≤ n

theorem wBound_mono {w : W} {n m : Nat} (h : wBound w n) (hnm : n ≤ m) : wBound w m :=
  fun st => Nat.le_trans (h st) hnm
theorem wBound_cr : wBound W.cr 1 := by
  intro st; unfold W.cr; split <;> simp [toksSize, tokSize]
theorem wBound_nop (n : Nat) : wBound W.nop n := fun _ => Nat.zero_le n
theorem wBound_emit {ts : List Tok} {n : Nat} (h : toksSize ts ≤ n) : wBound (W.emit ts) n := fun _ => h
theorem wBound_seq {a b : W} {n m : Nat} (ha : wBound a n) (hb : wBound b m) : wBound (a ⨟ b) (n + m) := by
  intro st; rw [size_seq]; have := ha st; have := hb (a st).2; omega
theorem wBound_cr_emit {ts : List Tok} {n : Nat} (h : 1 + toksSize ts ≤ n) : wBound (W.cr ⨟ W.emit ts) n :=
  wBound_mono (wBound_seq wBound_cr (wBound_emit (Nat.le_refl _))) h
theorem wBound_ite {c : Prop} [Decidable c] {a b : W} {n : Nat} (ha : wBound a n) (hb : wBound b n) :
    wBound (if c then a else b) n := by
  split <;> assumption

theorem toksSize_ite (c : Prop) [Decidable c] (a b : List Tok) :
    toksSize (if c then a else b) = if c then toksSize a else toksSize b := apply_ite ..
theorem attrsSize_ite (c : Prop) [Decidable c] (a b : List Attr) :
    attrsSize (if c then a else b) = if c then attrsSize a else attrsSize b := apply_ite ..
theorem length_ite (c : Prop) [Decidable c] (a b : Bytes) :
    (if c then a else b).length = if c then a.length else b.length := apply_ite ..

/- From here on `simp` computes the size of a literal token list down to the lengths of its variable parts; a choice
   between two lists becomes a choice between two numbers. -/
attribute [local simp] toksSize_ite attrsSize_ite length_ite toksSize_append toksSize tokSize attrsSize_append
  attrsSize attrSize partsSize_append partsSize partSize litAttr nl

def spLen (sp : Sp) : Nat := (spBytes sp).length
def dig (n : Nat) : Nat := (ofNatDec n).length

theorem spAttr_size (o : HtmlOpts) (sp : Sp) : attrsSize (spAttr o sp) ≤ 18 + spLen sp := by
  unfold spAttr; split <;> simp [spLen]

theorem urlVal_size (o : HtmlOpts) (url : Bytes) : partsSize (urlVal o url) ≤ 6 * url.length := by
  unfold urlVal; split <;> simp

theorem alignAttr_size (a : Align) : attrsSize (alignAttr a) ≤ 15 := by
  cases a <;> simp [alignAttr]

theorem alertCss_len (t : AlertType) : (alertCss t).length ≤ 24 := by cases t <;> simp [alertCss]
theorem alertTitle_len (t : AlertType) : (alertTitle t).length ≤ 9 := by cases t <;> simp [alertTitle]

theorem tagfilterBlock_len (l : Bytes) : (tagfilterBlock l).length ≤ 4 * l.length := by
  induction l with
  | nil => simp [tagfilterBlock]
  | cons b r ih =>
    simp only [tagfilterBlock]
    split
    · split <;> simp <;> omega
    · simp; omega

theorem htmlBlockToks_size (o : HtmlOpts) (l : Bytes) : toksSize (htmlBlockToks o l) ≤ 6 * l.length + 25 := by
  have := tagfilterBlock_len l
  unfold htmlBlockToks; simp; grind

theorem htmlInlineToks_size (o : HtmlOpts) (l : Bytes) : toksSize (htmlInlineToks o l) ≤ 6 * l.length + 25 := by
  unfold htmlInlineToks; simp; grind

theorem rowSectionToks_size (h : Bool) (p : Option NodeValue) : toksSize (rowSectionToks h p) ≤ 8 := by
  unfold rowSectionToks; repeat' split
  all_goals simp

theorem splitInfo_len (s : Bytes) : (splitInfo s).1.length + (splitInfo s).2.length = s.length := by
  induction s with
  | nil => simp [splitInfo]
  | cons c r ih => simp only [splitInfo]; split <;> simp <;> omega

theorem trimStartAux_len (fuel : Nat) (s : Bytes) : (trimStartAux fuel s).length ≤ s.length := by
  fun_induction trimStartAux fuel s <;> simp_all <;> omega

theorem trimEndRevAux_len (fuel : Nat) (s : Bytes) : (trimEndRevAux fuel s).length ≤ s.length := by
  fun_induction trimEndRevAux fuel s <;> simp_all <;> omega

theorem trimUnicode_len (s : Bytes) : (trimUnicode s).length ≤ s.length := by
  unfold trimUnicode trimEnd trimStart
  have h1 := trimStartAux_len s.length s
  have h2 := trimEndRevAux_len (trimStartAux s.length s).length (trimStartAux s.length s).reverse
  simp at h2 ⊢; omega

theorem codeBlockAttrs_size (o : HtmlOpts) (info : Bytes) (sp : Sp) :
    attrsSize (codeBlockAttrs o info sp).1 + attrsSize (codeBlockAttrs o info sp).2 ≤ 6 * info.length + 6 * spLen sp + 128 := by
  have h1 := splitInfo_len info
  have h2 := trimUnicode_len (splitInfo info).2
  unfold codeBlockAttrs
  simp [spLen]; grind

theorem mathCodeBlockToks_size (o : HtmlOpts) (sp : Sp) (l : Bytes) :
    toksSize (mathCodeBlockToks o sp l) ≤ 6 * l.length + 6 * spLen sp + 256 := by
  unfold mathCodeBlockToks
  simp [spLen]; grind

/-- Document bytes that `enter` writes (escaped: up to 6 bytes each). -/
def payloadIn : NodeValue → Nat
  | .codeBlock _ _ _ _ info literal => info.length + literal.length
  | .htmlBlock _ l => l.length
  | .text s => s.length
  | .code _ l => l.length
  | .htmlInline s => s.length
  | .raw s => s.length
  | .link u t => u.length + t.length
  | .image u t => u.length + t.length
  | .footnoteReference n _ _ => 2 * n.length
  | .footnoteDefinition n _ => n.length
  | .math _ _ l => l.length
  | .wikiLink u => u.length
  | .escapedTag s => s.length
  | .alert _ (some t) _ _ _ => t.length
  | _ => 0

/-- Document bytes that `exit` writes (the image title again in a `figcaption`, an escaped tag again). -/
def payloadOut : NodeValue → Nat
  | .image _ t => t.length
  | .escapedTag s => s.length
  | _ => 0

/-- The alternative text of an image: the plain text of its children (which are not rendered otherwise). -/
def altLen : NodeValue → Forest → Nat
  | .image _ _, cs => (plainF cs).length
  | _, _ => 0

/-- Decimal numbers written for a node besides its source position. -/
def numLen : NodeValue → Nat
  | .heading level _ => 2 * dig level
  | .list l => dig l.start
  | .footnoteReference _ refNum ix => 6 * dig refNum + dig ix
  | _ => 0

def pfxLen (o : HtmlOpts) : Nat := match o.headerIds with | some p => p.length | none => 0

attribute [local simp] payloadIn payloadOut altLen numLen headingName dig

/-- A tag that carries only the source position attribute, written alone or before a few fixed bytes, with or
    without a line break in front: well within the constant of `enter_size`, whatever the other summands. -/
theorem wBound_tag (o : HtmlOpts) (sp : Sp) (n : Bytes) (rest : List Tok) (a b c d : Nat)
    (h : n.length + toksSize rest ≤ 200) :
    wBound (W.emit (.op n (spAttr o sp) :: rest)) (a + 300 + 12 * (spBytes sp).length + b + c + d) ∧
    wBound (W.cr ⨟ W.emit (.op n (spAttr o sp) :: rest)) (a + 300 + 12 * (spBytes sp).length + b + c + d) := by
  have := spAttr_size o sp
  have fits : 1 + toksSize (.op n (spAttr o sp) :: rest) ≤ a + 300 + 12 * (spBytes sp).length + b + c + d := by
    simp [spLen] at this ⊢; omega
  exact ⟨wBound_emit (Nat.le_trans (Nat.le_add_left _ 1) fits), wBound_cr_emit fits⟩

theorem enter_size (o : HtmlOpts) (nt : NormTable) (cx : Ctx) (v : NodeValue) (sp : Sp) (cs : Forest) (A : Nat)
    (hA : o.headerIds ≠ none → ∀ issued h, ((anchorize nt issued h).1).length ≤ A) :
    wBound (enter o nt cx v sp cs)
      (6 * (payloadIn v + altLen v cs) + 300 + 12 * spLen sp + numLen v + 2 * A + pfxLen o) := by
  have hsp := spAttr_size o sp
  simp only [spLen] at hsp ⊢
  cases v
  case heading level setext =>
    -- the tag fits the constant; the anchor, if there is one, is what `A` and the prefix are there for
    refine wBound_mono (wBound_seq (wBound_cr_emit (Nat.le_refl _)) (m := 70 + 2 * A + pfxLen o) ?_) (by simp; grind)
    simp only [pfxLen]
    cases ho : o.headerIds with
    | none => exact wBound_nop _
    | some pfx =>
      intro st
      have := hA (by simp [ho]) st.anchors (collectTextF cs)
      simp [W.emit]; omega
  -- no other kind writes an anchor; without `hA` in the context the arithmetic is cheaper to check
  all_goals clear hA
  case document | frontMatter | descriptionItem => exact wBound_nop _
  case descriptionTerm | descriptionDetails | emph | strikethrough | superscript | subscript | underline =>
    exact (wBound_tag o sp _ _ _ _ _ _ (by decide)).1
  case blockQuote | multilineBlockQuote | item | descriptionList | table =>
    exact (wBound_tag o sp _ _ _ _ _ _ (by decide)).2
  case paragraph => exact wBound_ite (wBound_nop _) (wBound_tag o sp _ _ _ _ _ _ (by decide)).2
  case strong => exact wBound_ite (wBound_tag o sp _ _ _ _ _ _ (by decide)).1 (wBound_nop _)
  case text | lineBreak | code | raw | spoileredText | escapedTag | footnoteReference | math =>
    exact wBound_emit (by simp; grind)
  case thematicBreak | taskItem => exact wBound_cr_emit (by simp; grind)
  case escaped => exact wBound_ite (wBound_emit (by simp; grind)) (wBound_nop _)
  case softBreak => exact wBound_ite (wBound_emit (by simp; grind)) (wBound_emit (by simp; grind))
  case htmlBlock bt literal =>
    have := htmlBlockToks_size o literal
    exact wBound_mono (wBound_seq (wBound_cr_emit (Nat.le_refl _)) wBound_cr) (by simp; grind)
  case htmlInline s =>
    have := htmlInlineToks_size o s
    exact wBound_emit (by simp; grind)
  case tableRow header =>
    have := rowSectionToks_size header cx.prev
    exact wBound_mono (wBound_seq (wBound_cr_emit (Nat.le_refl _)) (wBound_emit (Nat.le_refl _))) (by simp; grind)
  case wikiLink url | image url _ =>
    have := urlVal_size o url
    exact wBound_emit (by simp; grind)
  case link url title =>
    have := urlVal_size o url
    exact wBound_ite (wBound_emit (by simp; grind)) (wBound_nop _)
  case codeBlock f fc fl fo info literal =>
    have h1 := mathCodeBlockToks_size o sp literal
    have h2 := codeBlockAttrs_size o info sp
    simp only [spLen] at h1 h2
    exact wBound_ite (wBound_cr_emit (by simp; grind)) (wBound_cr_emit (by simp; grind))
  case alert ty title ml fl fo =>
    have h1 := alertCss_len ty
    have h2 := alertTitle_len ty
    refine wBound_cr_emit ?_
    cases title <;> simp <;> grind
  case list l =>
    simp only [enter]
    cases l.ty <;> exact wBound_cr_emit (by simp; grind)
  case tableCell =>
    simp only [enter]
    generalize hh : alignAttr _ = aa
    have h1 : attrsSize aa ≤ 15 := by rw [← hh]; exact alignAttr_size _
    exact wBound_cr_emit (by simp; grind)
  case footnoteDefinition name total =>
    intro st
    simp only [enter, size_seq, size_emit]
    split <;> (simp only [size_emit, size_nop]; simp; grind)

theorem exit_size (o : HtmlOpts) (cx : Ctx) (v : NodeValue) (cs : Forest)
    (hv : ∀ n t, v ≠ .footnoteDefinition n t) (hp : ∀ n t, cx.parent ≠ some (.footnoteDefinition n t)) :
    wBound (exit o cx v cs) (6 * payloadOut v + 64 + numLen v) := by
  cases v
  case footnoteDefinition name total => exact absurd rfl (hv name total)
  case blockQuote | multilineBlockQuote | alert => exact wBound_cr_emit (by simp)
  case item | descriptionList | descriptionTerm | descriptionDetails | tableCell | taskItem | emph | strikethrough
      | superscript | subscript | underline | spoileredText | wikiLink =>
    exact wBound_emit (by simp)
  case heading | escapedTag => exact wBound_emit (by simp; omega)
  case strong | link | escaped => exact wBound_ite (wBound_emit (by simp)) (wBound_nop _)
  case image url title => exact wBound_ite (wBound_emit (by simp; grind)) (wBound_nop _)
  case list l =>
    simp only [exit]
    cases l.ty <;> exact wBound_emit (by simp; omega)
  case table =>
    exact wBound_mono (wBound_seq (wBound_seq (wBound_ite (wBound_cr_emit (Nat.le_refl _)) (wBound_nop _)) wBound_cr)
      (wBound_emit (Nat.le_refl _))) (by simp)
  case tableRow header =>
    exact wBound_mono (wBound_seq (wBound_cr_emit (Nat.le_refl _)) (wBound_ite (wBound_cr_emit (Nat.le_refl _)) (wBound_nop _)))
      (by simp)
  case paragraph =>
    refine wBound_ite (wBound_nop _) (wBound_mono (wBound_seq (n := 0) ?_ (wBound_emit (Nat.le_refl _))) (by simp))
    split
    · rename_i name total hpar; exact absurd hpar (hp name total)
    · exact wBound_nop 0
  -- the other kinds write nothing on the way out
  all_goals exact wBound_nop _

/-- Bytes of document text in a node value (what `enter` and `exit` may write escaped; a break counts 1,
    it becomes a space in an image's alternative text). -/
def textOf (v : NodeValue) : Nat :=
  payloadIn v + payloadOut v + (match v with | .softBreak => 1 | .lineBreak => 1 | _ => 0)

mutual
def boundT (K : Nat) : Tree → Nat
  | .node v sp cs => 6 * textOf v + K + 12 * spLen sp + 2 * numLen v + boundF K cs
def boundF (K : Nat) : Forest → Nat
  | .nil => 0
  | .cons t ts => boundT K t + boundF K ts
end

mutual
/-- No footnote definition in the tree (their back-references are bounded separately). -/
def noFnT : Tree → Prop
  | .node v _ cs => (∀ n k, v ≠ .footnoteDefinition n k) ∧ noFnF cs
def noFnF : Forest → Prop
  | .nil => True
  | .cons t ts => noFnT t ∧ noFnF ts
end

theorem plainT_node (v : NodeValue) (sp : Sp) (cs : Forest) :
    (plainT (.node v sp cs)).length ≤ textOf v + (plainF cs).length := by
  simp only [plainT, List.length_append, Nat.add_le_add_iff_right]
  split <;> simp [textOf, payloadIn, payloadOut]

mutual
theorem plainT_le (K : Nat) : ∀ t : Tree, 6 * (plainT t).length ≤ boundT K t
  | .node v sp cs => by
    have ih := plainF_le K cs
    have := plainT_node v sp cs
    simp only [boundT]; omega
theorem plainF_le (K : Nat) : ∀ f : Forest, 6 * (plainF f).length ≤ boundF K f
  | .nil => by simp [plainF, boundF]
  | .cons t ts => by
    have h1 := plainT_le K t
    have h2 := plainF_le K ts
    simp only [plainF, boundF, List.length_append]; omega
end

theorem altLen_eq (v : NodeValue) (cs : Forest) :
    altLen v cs = if htmlChildren v then 0 else (plainF cs).length := by
  unfold altLen htmlChildren
  split
  · rfl
  · rename_i notImage
    split
    · exact absurd rfl (notImage _ _)
    · rfl

mutual
theorem renderT_size (o : HtmlOpts) (nt : NormTable) (A : Nat) (hA : o.headerIds ≠ none → ∀ issued h, ((anchorize nt issued h).1).length ≤ A) :
    ∀ (t : Tree) (cx : Ctx) (st : St), noFnT t → (∀ n k, cx.parent ≠ some (.footnoteDefinition n k)) →
    toksSize (renderT o nt cx t st).1 ≤ boundT (364 + 2 * A + pfxLen o) t
  | .node v sp cs, cx, st, hno, hp => by
    simp only [noFnT] at hno
    have h1 := enter_size o nt cx v sp cs A hA st
    have h3 := exit_size o cx v cs hno.1 hp
    simp only [altLen_eq] at h1
    simp only [renderT, toksSize_append, boundT, textOf]
    cases hc : htmlChildren v with
    | true =>
      have h2 := renderF_size o nt A hA cs (some v) cx.parent none 0 (enter o nt cx v sp cs st).2 hno.2
        (fun n k h => hno.1 n k (Option.some.inj h))
      have h3' := h3 (renderF o nt (some v) cx.parent none 0 cs (enter o nt cx v sp cs st).2).2
      simp only [hc, ↓reduceIte] at h1 ⊢
      omega
    | false =>
      have hpl := plainF_le (364 + 2 * A + pfxLen o) cs
      have h3' := h3 (enter o nt cx v sp cs st).2
      simp only [hc, Bool.false_eq_true, ↓reduceIte, toksSize] at h1 ⊢
      omega
theorem renderF_size (o : HtmlOpts) (nt : NormTable) (A : Nat) (hA : o.headerIds ≠ none → ∀ issued h, ((anchorize nt issued h).1).length ≤ A) :
    ∀ (f : Forest) (parent grand prev : Option NodeValue) (idx : Nat) (st : St), noFnF f →
    (∀ n k, parent ≠ some (.footnoteDefinition n k)) →
    toksSize (renderF o nt parent grand prev idx f st).1 ≤ boundF (364 + 2 * A + pfxLen o) f
  | .nil, _, _, _, _, _, _, _ => by simp [renderF, toksSize, boundF]
  | .cons t ts, parent, grand, prev, idx, st, hno, hp => by
    simp only [noFnF] at hno
    have h1 := renderT_size o nt A hA t
      { parent := parent, grand := grand, prev := prev, isLast := ts.isNil, index := idx } st hno.1 hp
    have h2 := renderF_size o nt A hA ts parent grand (some t.value) (idx + 1)
      (renderT o nt { parent := parent, grand := grand, prev := prev, isLast := ts.isNil, index := idx } t st).2 hno.2 hp
    simp only [renderF, toksSize_append, boundF]
    omega
end

mutual
/-- Bytes of document text in the tree (image titles and escaped tags count twice: they are written twice). -/
def textBytesT : Tree → Nat
  | .node v _ cs => textOf v + textBytesF cs
def textBytesF : Forest → Nat
  | .nil => 0
  | .cons t ts => textBytesT t + textBytesF ts
end

mutual
def nodesT : Tree → Nat
  | .node _ _ cs => 1 + nodesF cs
def nodesF : Forest → Nat
  | .nil => 0
  | .cons t ts => nodesT t + nodesF ts
end

mutual
/-- Total length of the `l:c-l:c` source position strings of the tree. -/
def spDigitsT : Tree → Nat
  | .node _ sp cs => spLen sp + spDigitsF cs
def spDigitsF : Forest → Nat
  | .nil => 0
  | .cons t ts => spDigitsT t + spDigitsF ts
end

mutual
/-- Total length of the other decimal numbers written (heading levels, list starts, footnote indices). -/
def numDigitsT : Tree → Nat
  | .node v _ cs => numLen v + numDigitsF cs
def numDigitsF : Forest → Nat
  | .nil => 0
  | .cons t ts => numDigitsT t + numDigitsF ts
end

mutual
theorem boundT_eq (K : Nat) : ∀ t : Tree,
    boundT K t = 6 * textBytesT t + K * nodesT t + 12 * spDigitsT t + 2 * numDigitsT t
  | .node v sp cs => by
    have ih := boundF_eq K cs
    simp only [boundT, textBytesT, nodesT, spDigitsT, numDigitsT, ih, Nat.mul_add, Nat.mul_one]
    omega
theorem boundF_eq (K : Nat) : ∀ f : Forest,
    boundF K f = 6 * textBytesF f + K * nodesF f + 12 * spDigitsF f + 2 * numDigitsF f
  | .nil => by simp [boundF, textBytesF, nodesF, spDigitsF, numDigitsF]
  | .cons t ts => by
    have h1 := boundT_eq K t
    have h2 := boundF_eq K ts
    simp only [boundF, textBytesF, nodesF, spDigitsF, numDigitsF, h1, h2, Nat.mul_add]
    omega
end

/-- The part `renderHtml_size` leaves out: the back-references written at the end of a footnote definition
    are `total_references` links of bounded size each. -/
theorem backrefToks_size (name : Bytes) (fnIx D : Nat) : ∀ (k r : Nat), (∀ n, r ≤ n → n < r + k → dig n ≤ D) →
    toksSize (backrefToks name fnIx k r) ≤ k * (6 * name.length + 2 * dig fnIx + 4 * D + 256)
  | 0, _, _ => by simp [backrefToks, toksSize]
  | k + 1, r, h => by
    have ih := backrefToks_size name fnIx D k (r + 1) (fun n h1 h2 => h n (by omega) (by omega))
    have hd := h r (Nat.le_refl _) (by omega)
    simp only [backrefToks, toksSize_append, Nat.add_mul, Nat.one_mul]
    simp only [dig] at hd ih ⊢
    split <;> simp <;> omega

theorem finish_size (st : St) : toksSize (finish st).1 ≤ 17 := by
  unfold finish; split
  · simp [W.emit, toksSize, tokSize, nl]
  · simp [toksSize]

theorem renderHtml_size (o : HtmlOpts) (nt : NormTable) (t : Tree) (A : Nat)
    (hA : o.headerIds ≠ none → ∀ issued h, ((anchorize nt issued h).1).length ≤ A) (hno : noFnT t) :
    (renderHtml o nt t).length ≤
      6 * textBytesT t + (364 + 2 * A + pfxLen o) * nodesT t + 12 * spDigitsT t + 2 * numDigitsT t + 17 := by
  have h1 := renderT_size o nt A hA t {} {} hno (fun n k h => by simp at h)
  have h2 := finish_size (renderT o nt {} t {}).2
  have h3 := spell_le_size (renderToks o nt t)
  have h4 := boundT_eq (364 + 2 * A + pfxLen o) t
  unfold renderHtml
  unfold renderToks at h3 ⊢
  rw [size_seq] at h3
  omega

end Comrak.HtmlSize
