/-
Positions of canonical documents, layer C: inline content.  For inline content that stands in the
source (`Reg`), the positioned trees `Inl.toTreeP` / `Inls.toForestP` pass the C11 clauses
(`claimCheckT`: range, nesting, order) and the C12 clauses (`sliceCheckT`).
-/
import Comrak.Lemmas.CanonPosB
namespace Comrak.Canon
open Comrak Bytes

section generic
variable (lt : List LineEnt) (src : Bytes)

theorem claim_node (v : NodeValue) (sp : Sp) (cs : Forest) (A : Sp) (hv : v.kind.spReliable = true) (hsl : sp.sl ≠ 0)
    (hr : spRangeFail lt sp = none) (hn : spNested A sp = true) (hc : claimCheckF lt (some sp) none cs = none) :
    claimCheckT lt (some A) (.node v sp cs) = none := by
  simp [claimCheckT, hv, hsl, hr, hn, hc]

theorem claim_node_root (v : NodeValue) (sp : Sp) (cs : Forest) (hv : v.kind.spReliable = true) (hsl : sp.sl ≠ 0)
    (hr : spRangeFail lt sp = none) (hc : claimCheckF lt (some sp) none cs = none) :
    claimCheckT lt none (.node v sp cs) = none := by
  simp [claimCheckT, hv, hsl, hr, hc]

theorem claim_skip (v : NodeValue) (sp : Sp) (cs : Forest) (anc : Option Sp)
    (h : (v.kind.spReliable && sp.sl != 0) = false) (hc : claimCheckF lt anc none cs = none) :
    claimCheckT lt anc (.node v sp cs) = none := by
  simp only [claimCheckT, h]
  simpa using hc

theorem slice_node (v : NodeValue) (sp : Sp) (cs : Forest)
    (h : ∀ s, sliceLT lt src sp = some s → sliceFail v cs s = none ∧ sliceEndFail lt src v sp = none)
    (hc : sliceCheckF lt src cs = none) : sliceCheckT lt src (.node v sp cs) = none := by
  simp only [sliceCheckT]
  cases hs : sliceLT lt src sp with
  | none => simpa using hc
  | some s =>
    obtain ⟨h1, h2⟩ := h s hs
    simp [h1, h2, hc, Option.orElse]

theorem slice_node_zero (v : NodeValue) (cs : Forest) (hc : sliceCheckF lt src cs = none) :
    sliceCheckT lt src (.node v {} cs) = none := by
  have : sliceLT lt src {} = none := by simp [sliceLT, spOffsets, lineAt]
  simp only [sliceCheckT, this]
  simpa using hc

theorem claimF_cons (t : Tree) (ts : Forest) (anc prev : Option Sp)
    (htk : (t.value.kind.spInOrder && t.sp.sl != 0) = true)
    (hord : ∀ Q, prev = some Q → spOrdered Q t.sp = true)
    (ht : claimCheckT lt anc t = none) (hr : claimCheckF lt anc (some t.sp) ts = none) :
    claimCheckF lt anc prev (.cons t ts) = none := by
  simp only [claimCheckF, htk, ht]
  cases prev with
  | none => simpa using hr
  | some Q => simp [hord Q rfl]; simpa using hr

theorem claimF_cons_skip (t : Tree) (ts : Forest) (anc prev : Option Sp)
    (htk : (t.value.kind.spInOrder && t.sp.sl != 0) = false)
    (ht : claimCheckT lt anc t = none) (hr : claimCheckF lt anc prev ts = none) :
    claimCheckF lt anc prev (.cons t ts) = none := by
  simp only [claimCheckF, htk, ht]
  cases prev with
  | none => simpa using hr
  | some Q => simpa using hr

theorem sliceF_cons (t : Tree) (ts : Forest) (ht : sliceCheckT lt src t = none) (hr : sliceCheckF lt src ts = none) :
    sliceCheckF lt src (.cons t ts) = none := by
  simp [sliceCheckF, ht, hr]

end generic

mutual
/-- Local facts: a text is non-empty and has no line end in it, a code span has at least one
    backtick, an autolink lies on one line.  (All follow from `Doc.ok`.) -/
def Inl.ph : Inl → Bool
  | .text as => !(atomsSrc as).isEmpty && nlFree (atomsSrc as)
  | .code n _ => decide (1 ≤ n)
  | .emph _ cs => cs.ph
  | .strong _ cs => cs.ph
  | .strike cs => cs.ph
  | .link _ _ _ _ cs => cs.ph
  | .image _ _ _ cs => cs.ph
  | .autolink s r => nlFree (autolinkUrl s r)
  | _ => true
def Inls.ph : Inls → Bool
  | .nil => true
  | .cons i r => i.ph && r.ph
end

theorem rep_succ (n : Nat) (c : UInt8) : rep (n + 1) c = c :: rep n c := rfl
theorem rep_succ' (n : Nat) (c : UInt8) : rep (n + 1) c = rep n c ++ [c] := by
  simp [rep, List.replicate_succ']

-- with these `simp` evaluates `lastB` on `opener ++ mid ++ closer` for an unknown `mid` (`Inl.frame_clause`, `clause_code`)
@[simp] theorem getLast?_cons_snoc (a d : UInt8) (mid : Bytes) : (a :: (mid ++ [d])).getLast? = some d := by
  rw [← List.cons_append, List.getLast?_append]; simp
@[simp] theorem getLast?_cons_snoc₂ (a d e : UInt8) (mid : Bytes) : (a :: (mid ++ [d, e])).getLast? = some e := by
  rw [← List.cons_append, List.getLast?_append]; simp

/-- The inlines written as `opener ++ kids.src ++ closer`. -/
def Inl.isWrap : Inl → Bool
  | .emph .. | .strong .. | .strike _ | .link .. | .image .. => true
  | _ => false

def Inl.kids : Inl → Inls
  | .emph _ cs | .strong _ cs | .strike cs | .link _ _ _ _ cs | .image _ _ _ cs => cs
  | _ => .nil

def Inl.opener : Inl → Bytes
  | .emph us _ => [if us then 0x5F else 0x2A]
  | .strong us _ => [if us then 0x5F else 0x2A, if us then 0x5F else 0x2A]
  | .strike _ => [0x7E, 0x7E]
  | .link .. => [0x5B]
  | .image .. => [0x21, 0x5B]
  | _ => []

/-- What stands between the children and the closing delimiter. -/
def Inl.closeMid : Inl → Bytes
  | .link url title angle .inline _ => [0x5D, 0x28] ++ destSrc url angle ++ titleSrc title
  | .link _ _ _ (.ref label _ _) _ => [0x5D, 0x5B] ++ label
  | .image url title angle _ => [0x5D, 0x28] ++ destSrc url angle ++ titleSrc title
  | _ => []

def Inl.closeEnd : Inl → Bytes
  | .emph us _ => [if us then 0x5F else 0x2A]
  | .strong us _ => [if us then 0x5F else 0x2A, if us then 0x5F else 0x2A]
  | .strike _ => [0x7E, 0x7E]
  | .link _ _ _ .inline _ => [0x29]
  | .link _ _ _ (.ref ..) _ => [0x5D]
  | .image .. => [0x29]
  | _ => []

theorem Inl.src_frame : ∀ (i : Inl), i.isWrap = true → i.src = i.opener ++ (i.kids.src ++ i.closeMid) ++ i.closeEnd
  | .emph .., _ | .strong .., _ | .strike _, _ => by simp only [Inl.closeMid, List.append_nil]; rfl
  | .link _ _ _ .inline _, _ | .link _ _ _ (.ref ..) _, _ | .image .., _ => by
    simp only [Inl.src, Inl.opener, Inl.kids, Inl.closeMid, Inl.closeEnd, List.append_assoc]

def Inl.closer (i : Inl) : Bytes := i.closeMid ++ i.closeEnd

theorem Inl.src_closer (i : Inl) (h : i.isWrap = true) : i.src = i.opener ++ i.kids.src ++ i.closer := by
  rw [Inl.src_frame i h, Inl.closer]
  simp only [List.append_assoc]

theorem Inl.toTreeP_frame (i : Inl) (h : i.isWrap = true) (c0 : Nat) (p : Pos) :
    i.toTreeP c0 p = .node i.toTree.value (spanOf c0 p i.src) (i.kids.toForestP c0 (p.1, p.2 + i.opener.length)) := by
  cases i <;> first | rfl | cases h

theorem Inl.frame_facts : ∀ (i : Inl), i.isWrap = true →
    nlFree i.opener = true ∧ i.opener ≠ [] ∧ nlFree i.closeEnd = true ∧ i.closeEnd ≠ [] ∧ i.ph = i.kids.ph ∧ i.toTree.value.kind.spReliable = true ∧
      (∀ lt src sp, sliceEndFail lt src i.toTree.value sp = none)
  | .emph true _, _ | .emph false _, _ | .strong true _, _ | .strong false _, _ | .strike _, _ | .link _ _ _ .inline _, _
  | .link _ _ _ (.ref ..) _, _ | .image .., _ =>
    ⟨rfl, List.cons_ne_nil _ _, rfl, List.cons_ne_nil _ _, rfl, rfl, fun _ _ _ => rfl⟩

/-- The delimiter clauses of `sliceFail` look at the first and last bytes only. -/
theorem Inl.frame_clause (i : Inl) (h : i.isWrap = true) (cs : Forest) (mid : Bytes) :
    sliceFail i.toTree.value cs (i.opener ++ mid ++ i.closeEnd) = none := by
  cases i <;> first | cases h | skip
  case emph us _ => cases us <;> simp [sliceFail, Inl.toTree, Tree.value, Inl.opener, Inl.closeEnd, firstB, lastB]
  case strong us _ => cases us <;> simp [sliceFail, Inl.toTree, Tree.value, Inl.opener, Inl.closeEnd, List.reverse_append]
  case strike => simp [sliceFail, Inl.toTree, Tree.value, Inl.opener, Inl.closeEnd, firstB, lastB]
  case link _ _ _ sp _ => cases sp <;> simp [sliceFail, Inl.toTree, Tree.value, Inl.opener, Inl.closeEnd, firstB, lastB]
  case image => simp [sliceFail, Inl.toTree, Tree.value, Inl.opener, Inl.closeEnd, isPrefixB, lastB]

theorem Inl.src_ne_nil (i : Inl) (h : i.ph = true) : i.src ≠ [] := by
  by_cases hw : i.isWrap = true
  · rw [Inl.src_frame i hw]
    obtain ⟨_, hu, _⟩ := Inl.frame_facts i hw
    simp [hu]
  · cases i <;> first | exact absurd rfl hw | skip
    case text as =>
      simp only [Inl.ph, Bool.and_eq_true, Bool.not_eq_true', List.isEmpty_eq_false_iff] at h
      exact h.1
    case code n s =>
      simp only [Inl.ph, decide_eq_true_eq] at h
      obtain ⟨m, rfl⟩ := exists_add_one h
      exact List.cons_ne_nil _ _
    case hard b => cases b <;> exact List.cons_ne_nil _ _
    all_goals exact List.cons_ne_nil _ _

theorem plainSlice_append (a b : Bytes) : plainSlice (a ++ b) = (plainSlice a && plainSlice b) := by
  simp only [plainSlice, List.contains_append, Bool.not_or]
  cases a.contains 0x5C <;> cases a.contains 0x26 <;> cases a.contains 0x00 <;> simp

theorem plainSlice_backslash (s : Bytes) : plainSlice (0x5C :: s) = false := by simp [plainSlice]
theorem plainSlice_amp (s : Bytes) : plainSlice (0x26 :: s) = false := by simp [plainSlice]

theorem plain_atom (a : Atom) (h : plainSlice a.src = true) : a.src = a.val := by
  cases a with
  | ch c => rfl
  | esc c => rw [show (Atom.esc c).src = 0x5C :: [c] from rfl, plainSlice_backslash] at h; cases h
  | ent i => rw [show (Atom.ent i).src = 0x26 :: (_ ++ [0x3B]) from rfl, plainSlice_amp] at h; cases h
  | num c hex => cases hex <;> (rw [show (Atom.num c _).src = 0x26 :: _ from rfl, plainSlice_amp] at h; cases h)
  | uni i => rfl

theorem plain_atoms : ∀ (as : List Atom), plainSlice (atomsSrc as) = true → atomsSrc as = atomsVal as
  | [], _ => rfl
  | a :: r, h => by
    simp only [atomsSrc, atomsVal, List.flatMap_cons, plainSlice_append, Bool.and_eq_true] at h ⊢
    rw [plain_atom a h.1, ← atomsSrc, ← atomsVal, plain_atoms r h.2]

theorem atoms_ch (s : Bytes) : atomsSrc (s.map .ch) = s ∧ atomsVal (s.map .ch) = s := by
  simp [atomsSrc, atomsVal, List.flatMap_map, Atom.src, Atom.val]

theorem clause_text (as : List Atom) : sliceFail (.text (atomsVal as)) .nil (atomsSrc as) = none := by
  simp only [sliceFail]
  split
  · rename_i h
    simp only [Bool.and_eq_true] at h
    simp [plain_atoms as h.1]
  · rfl

theorem clause_text_same (s : Bytes) : sliceFail (.text s) .nil s = none := by
  simp [sliceFail]

theorem lastB_snoc (a : Bytes) (d : UInt8) : lastB (a ++ [d]) = some d := by simp [lastB]

theorem clause_code (n : Nat) (s mid : Bytes) : sliceFail (.code n s) .nil ([0x60] ++ mid ++ [0x60]) = none := by
  simp [sliceFail, firstB, lastB]

theorem clause_autolink (u t : Bytes) (cs : Forest) (mid : Bytes) :
    sliceFail (.link u t) cs ([0x3C] ++ mid ++ [0x3E]) = none := by
  simp [sliceFail, firstB, lastB]

section inl
variable (G : List Bytes)

local notation "LT" => lineEnts (joinLines G)
local notation "SRC" => joinLines G

def InlGood (i : Inl) : Prop :=
  ∀ (c0 : Nat) (p : Pos) (A : Sp), Reg G c0 p i.src → i.ph = true → spNested A (spanOf c0 p i.src) = true →
    claimCheckT LT (some A) (i.toTreeP c0 p) = none ∧ sliceCheckT LT SRC (i.toTreeP c0 p) = none

def GoodT (anc : Option Sp) (t : Tree) : Prop :=
  claimCheckT LT anc t = none ∧ sliceCheckT LT SRC t = none

/-- `prev`: the span of the previous sibling that claims a position. -/
def GoodF (anc prev : Option Sp) (f : Forest) : Prop :=
  claimCheckF LT anc prev f = none ∧ sliceCheckF LT SRC f = none

/-- `prev`: the span of the previous sibling, which ends before `p`. -/
def InlsGood (is : Inls) : Prop :=
  ∀ (c0 : Nat) (p : Pos) (A : Sp) (prev : Option Sp), Reg G c0 p is.src → is.ph = true →
    posLe A.sl A.sc p.1 p.2 = true →
    (is.src ≠ [] → posLe (adv c0 p is.src.dropLast).1 (adv c0 p is.src.dropLast).2 A.el A.ec = true) →
    (∀ Q, prev = some Q → posLt Q.el Q.ec p.1 p.2 = true) →
    GoodF G (some A) prev (is.toForestP c0 p)

theorem goodT_node (hG : cleanG G = true) (v : NodeValue) (sp A : Sp) (kids : Forest) (hv : v.kind.spReliable = true)
    (hval : Valid G sp) (hn : spNested A sp = true)
    (hs : ∀ s, sliceLT LT SRC sp = some s → sliceFail v kids s = none ∧ sliceEndFail LT SRC v sp = none)
    (hk : GoodF G (some sp) none kids) : GoodT G (some A) (.node v sp kids) :=
  ⟨claim_node _ v sp kids A hv (Nat.ne_of_gt hval.l1) (range_of_valid G hG sp hval) hn hk.1, slice_node _ _ v sp kids hs hk.2⟩

theorem goodF_node (v : NodeValue) (sp : Sp) (cs ts : Forest) (anc prev : Option Sp)
    (hv : v.kind.spInOrder = true) (hsl : sp.sl ≠ 0) (hord : ∀ Q, prev = some Q → spOrdered Q sp = true)
    (ht : GoodT G anc (.node v sp cs)) (hr : GoodF G anc (some sp) ts) : GoodF G anc prev (.cons (.node v sp cs) ts) :=
  ⟨claimF_cons _ _ ts anc prev (by simp [Tree.value, Tree.sp, hv, hsl]) hord ht.1 hr.1, sliceF_cons _ _ _ _ ht.2 hr.2⟩

theorem span_sl_ne {c0 : Nat} {p : Pos} {x : Bytes} (h : Reg G c0 p x) : (spanOf c0 p x).sl ≠ 0 := by
  have := (reg_cur h).1
  simp only [spanOf]; omega

theorem leaf_good (hG : cleanG G = true) (v : NodeValue) (x : Bytes) (c0 : Nat) (p : Pos) (A : Sp) (hr : Reg G c0 p x) (hx : x ≠ [])
    (hv : v.kind.spReliable = true) (hnq : ∀ sp, sliceEndFail LT SRC v sp = none)
    (hn : spNested A (spanOf c0 p x) = true)
    (hs : ∀ s, sliceLT LT SRC (spanOf c0 p x) = some s → sliceFail v .nil s = none) :
    GoodT G (some A) (.node v (spanOf c0 p x) .nil) :=
  goodT_node G hG v _ A .nil hv (valid_of_reg hr hx) hn (fun s h => ⟨hs s h, hnq _⟩) ⟨rfl, rfl⟩

theorem inls_nil_pos : InlsGood G .nil := fun _ _ _ _ _ _ _ _ _ => ⟨rfl, rfl⟩

/-- An inline container `u ++ cs.src ++ m ++ w`: the children are checked in the region after `u`. -/
theorem node_good (hG : cleanG G = true) (v : NodeValue) (cs : Inls) (u m w : Bytes) (c0 : Nat) (p : Pos) (A : Sp)
    (hr : Reg G c0 p (u ++ (cs.src ++ m) ++ w)) (hu : nlFree u = true) (hw : nlFree w = true) (hu0 : u ≠ []) (hw0 : w ≠ [])
    (hv : v.kind.spReliable = true) (hnq : ∀ sp, sliceEndFail LT SRC v sp = none)
    (hn : spNested A (spanOf c0 p (u ++ (cs.src ++ m) ++ w)) = true)
    (hs : ∀ mid, sliceFail v (cs.toForestP c0 (p.1, p.2 + u.length)) (u ++ mid ++ w) = none)
    (ih : InlsGood G cs) (hph : cs.ph = true) :
    GoodT G (some A) (.node v (spanOf c0 p (u ++ (cs.src ++ m) ++ w)) (cs.toForestP c0 (p.1, p.2 + u.length))) := by
  have hx : u ++ (cs.src ++ m) ++ w ≠ [] := by simp [hu0]
  have hq : adv c0 p u = (p.1, p.2 + u.length) := adv_nlFree c0 u p hu
  have hkids := (reg_append (reg_append (reg_append hr).1).2).1
  rw [hq] at hkids
  obtain ⟨mid, hm⟩ := slice_of_reg hG hr hu hw hu0 hw0
  refine goodT_node G hG v _ A _ hv (valid_of_reg hr hx) hn (fun s h => by
    rw [hm] at h
    cases h
    exact ⟨hs mid, hnq _⟩)
    (ih c0 (p.1, p.2 + u.length) _ none hkids hph (by simp [spanOf, posLe]) (fun hne => ?_) (fun Q h => by cases h))
  have e : (u ++ (cs.src ++ m) ++ w).dropLast = u ++ (cs.src ++ (m ++ w)).dropLast := by
    rw [List.append_assoc, List.append_assoc, List.dropLast_append_of_ne_nil (by simp [hne])]
  simp only [spanOf, e]
  rw [adv_append, hq]
  exact adv_dropLast_le c0 _ _ _ hne

theorem wrap_good (hG : cleanG G = true) (i : Inl) (hw : i.isWrap = true) (ih : InlsGood G i.kids) : InlGood G i :=
  fun c0 p A hr hph hn => by
    obtain ⟨hu, hu0, hw1, hw0, hkph, hv, hnq⟩ := Inl.frame_facts i hw
    rw [Inl.toTreeP_frame i hw]
    rw [Inl.src_frame i hw] at hr hn ⊢
    exact node_good G hG _ i.kids _ _ _ c0 p A hr hu hw1 hu0 hw0 hv (fun _ => hnq _ _ _) hn
      (fun mid => Inl.frame_clause i hw _ mid) ih (hkph ▸ hph)

theorem inl_text_pos (hG : cleanG G = true) (as : List Atom) : InlGood G (.text as) := fun c0 p A hr hph hn => by
  simp only [Inl.ph, Bool.and_eq_true, Bool.not_eq_true', List.isEmpty_eq_false_iff] at hph
  simp only [Inl.src] at hr hn hph
  simp only [Inl.toTreeP, Inl.src]
  refine leaf_good G hG _ _ c0 p A hr hph.1 rfl (fun _ => rfl) hn (fun s h => ?_)
  rw [slice_of_reg_line hG hr hph.2 hph.1] at h
  cases h
  exact clause_text as

theorem inl_code_pos (hG : cleanG G = true) (n : Nat) (s : Bytes) : InlGood G (.code n s) := fun c0 p A hr hph hn => by
  simp only [Inl.ph, decide_eq_true_eq] at hph
  obtain ⟨m, rfl⟩ := exists_add_one hph
  have e : (Inl.code (m + 1) s).src = [0x60] ++ (rep m 0x60 ++ s ++ rep m 0x60) ++ [0x60] := by
    simp [Inl.src, rep_succ]
    exact (rep_succ m 96).symm.trans (rep_succ' m 96)
  simp only [Inl.toTreeP]
  rw [e] at hr hn ⊢
  exact node_good G hG _ .nil [0x60] (rep m 0x60 ++ s ++ rep m 0x60) [0x60] c0 p A hr rfl rfl (by simp) (by simp) rfl (fun _ => rfl) hn
    (fun _ => clause_code _ _ _) (inls_nil_pos G) rfl

theorem inl_leaf_noclause (hG : cleanG G = true) (i : Inl) (v : NodeValue) (ht : ∀ c0 p, i.toTreeP c0 p = .node v (spanOf c0 p i.src) .nil)
    (hv : v.kind.spReliable = true) (hnq : ∀ sp, sliceEndFail LT SRC v sp = none) (hc : ∀ s, sliceFail v .nil s = none) :
    InlGood G i := fun c0 p A hr hph hn => by
  rw [ht]
  exact leaf_good G hG _ _ c0 p A hr (Inl.src_ne_nil i hph) hv hnq hn (fun s _ => hc s)

theorem inls_cons_pos (i : Inl) (r : Inls) (hi : InlGood G i) (hr : InlsGood G r) : InlsGood G (.cons i r) :=
  fun c0 p A prev hreg hph hs he hp => by
    simp only [Inls.ph, Bool.and_eq_true] at hph
    simp only [Inls.src] at hreg he
    have hi0 := Inl.src_ne_nil i hph.1
    obtain ⟨r1, r2⟩ := reg_append hreg
    have hcur := reg_cur hreg
    have hwhole := he (by simp [hi0])
    obtain ⟨k1, k2⟩ := hi c0 p A r1 hph.1 (spNested_of hs (posLe_trans (adv_dropLast_le c0 p _ r.src hi0) hwhole))
    obtain ⟨k3, k4⟩ := hr c0 (adv c0 p i.src) A (some (spanOf c0 p i.src)) r2 hph.2 (posLe_trans hs (adv_le c0 _ _))
      (fun hr0 => by rwa [List.dropLast_append_of_ne_nil hr0, adv_append] at hwhole)
      (fun Q hQ => by
        cases hQ
        obtain ⟨b, hb⟩ := dropLast_append_last i.src hi0
        have : adv c0 p i.src = adv c0 (adv c0 p i.src.dropLast) [b] := by
          conv => lhs; rw [hb]
          rw [adv_append]
        simp only [spanOf]
        rw [this]
        exact adv_lt c0 [b] _ (by simp))
    have hsp : (i.toTreeP c0 p).sp = spanOf c0 p i.src := by cases i <;> rfl
    have hkind : (i.toTreeP c0 p).value.kind.spInOrder = true := by cases i <;> rfl
    simp only [Inls.toForestP]
    refine ⟨claimF_cons _ _ _ _ prev ?_ ?_ k1 (by rw [hsp]; exact k3), sliceF_cons _ _ _ _ k2 k4⟩
    · rw [hkind, hsp]
      have := hcur.1
      simp [spanOf]; omega
    · intro Q hQ
      rw [hsp]
      simp only [spOrdered, spanOf]
      exact hp Q hQ

/-- An autolink is `<`, the URL as a text of plain characters, `>`. -/
theorem inl_autolink_pos (hG : cleanG G = true) (sc : Nat) (r : Bytes) : InlGood G (.autolink sc r) := fun c0 p A hr hph hn => by
  obtain ⟨ha1, ha2⟩ := atoms_ch (autolinkUrl sc r)
  have hu0 : autolinkUrl sc r ≠ [] := by simp [autolinkUrl]
  have e : (Inl.autolink sc r).src = [0x3C] ++ ((Inls.cons (.text ((autolinkUrl sc r).map .ch)) .nil).src ++ []) ++ [0x3E] := by
    simp [Inl.src, Inls.src, ha1]
  rw [e] at hr hn
  have := node_good G hG (.link (autolinkUrl sc r) []) _ [0x3C] [] [0x3E] c0 p A hr rfl rfl (by simp) (by simp) rfl (fun _ => rfl) hn
    (fun mid => clause_autolink _ _ _ _) (inls_cons_pos G _ _ (inl_text_pos G hG _) (inls_nil_pos G))
    (by simpa [Inls.ph, Inl.ph, ha1, hu0] using hph)
  simpa [GoodT, Inls.toForestP, Inl.toTreeP, Inls.src, Inl.src, ha1, ha2] using this

mutual
theorem inl_good (hG : cleanG G = true) : ∀ i : Inl, InlGood G i
  | .text as => inl_text_pos G hG as
  | .code n s => inl_code_pos G hG n s
  | .emph _ cs | .strong _ cs | .strike cs | .link _ _ _ _ cs | .image _ _ _ cs => wrap_good G hG _ rfl (inls_good hG cs)
  | .autolink sc r => inl_autolink_pos G hG sc r
  | .hard _ | .soft | .fnref .. => inl_leaf_noclause G hG _ _ (fun _ _ => rfl) rfl (fun _ => rfl) (fun _ => rfl)
theorem inls_good (hG : cleanG G = true) : ∀ is : Inls, InlsGood G is
  | .nil => inls_nil_pos G
  | .cons i r => inls_cons_pos G i r (inl_good hG i) (inls_good hG r)
end

end inl

end Comrak.Canon
