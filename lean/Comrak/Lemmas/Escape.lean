/-
`escape` and `escapeHref` are `flatMap`s of a per-byte encoder.  Each encoder has one case-analysis
principle (`escByte_cases`, `hrefByte_cases`); a decoder or recogniser `D` run over the output gets a
per-byte equation `D (enc b ++ s) = step b (D s)` from it, and the facts about whole strings are
inductions over these equations.
-/
import Comrak.Escape
namespace Comrak
open Bytes

/-- Every `UInt8` is `UInt8.ofNat` of a `Fin 256`; lifts `decide +kernel` tables to all bytes. -/
theorem forall_uint8_of_fin {P : UInt8 → Prop} (h : ∀ n : Fin 256, P (UInt8.ofNat n.val)) :
    ∀ b : UInt8, P b := by
  intro b
  have := h ⟨b.toNat, b.toNat_lt⟩
  simpa using this

theorem escape_nil : escape [] = [] := rfl
theorem escape_append (a b : Bytes) : escape (a ++ b) = escape a ++ escape b := by
  simp only [escape, List.flatMap_append]

theorem escapeHref_append (a b : Bytes) : escapeHref (a ++ b) = escapeHref a ++ escapeHref b := by
  simp only [escapeHref, List.flatMap_append]

theorem escape_cons (b : UInt8) (r : Bytes) : escape (b :: r) = escByte b ++ escape r := by
  simp [escape]

theorem htmlUnsafe_eq_false (b : UInt8) :
    htmlUnsafe b = false ↔ b ≠ 0x22 ∧ b ≠ 0x26 ∧ b ≠ 0x3C ∧ b ≠ 0x3E := by
  simp only [htmlUnsafe, Bool.or_eq_false_iff, beq_eq_false_iff_ne, and_assoc]

theorem escByte_safe (b : UInt8) (h : htmlUnsafe b = false) : escByte b = [b] := by
  obtain ⟨h1, h2, h3, h4⟩ := (htmlUnsafe_eq_false b).mp h
  simp only [escByte, if_neg h1, if_neg h2, if_neg h3, if_neg h4]

theorem escByte_cases {P : UInt8 → Bytes → Prop} (quot : P 0x22 entQuot) (amp : P 0x26 entAmp)
    (lt : P 0x3C entLt) (gt : P 0x3E entGt)
    (safe : ∀ b, b ≠ 0x22 → b ≠ 0x26 → b ≠ 0x3C → b ≠ 0x3E → P b [b]) (b : UInt8) :
    P b (escByte b) := by
  cases h : htmlUnsafe b with
  | false =>
    obtain ⟨h1, h2, h3, h4⟩ := (htmlUnsafe_eq_false b).mp h
    rw [escByte_safe b h]; exact safe b h1 h2 h3 h4
  | true =>
    simp only [htmlUnsafe, Bool.or_eq_true, beq_iff_eq] at h
    rcases h with ((rfl | rfl) | rfl) | rfl <;> assumption

theorem escapeLoop_eq (p bs : Bytes) : escapeLoop p bs = p ++ escape bs := by
  induction bs generalizing p with
  | nil => simp [escapeLoop, escape]
  | cons b r ih =>
    simp only [escapeLoop, escape_cons]
    split
    · rw [ih]; simp
    · rename_i h
      rw [ih, escByte_safe b (by simpa using h)]; simp

theorem noActive_escByte_append (b : UInt8) (s : Bytes) : noActive (escByte b ++ s) = noActive s := by
  refine escByte_cases (P := fun _ e => noActive (e ++ s) = noActive s) rfl rfl rfl rfl ?_ b
  intro b h1 h2 h3 h4
  simp [noActive, h1, h2, h3, h4]

theorem unescapeTextAux_escByte (b : UInt8) (rest : Bytes) :
    unescapeTextAux 0 (escByte b ++ rest) = (unescapeTextAux 0 rest).map (b :: ·) := by
  refine escByte_cases
    (P := fun b e => unescapeTextAux 0 (e ++ rest) = (unescapeTextAux 0 rest).map (b :: ·))
    rfl rfl rfl rfl ?_ b
  intro b h1 h2 h3 h4
  simp [unescapeTextAux, h1, h2, h3, h4]

theorem escape_noActive (a : Bytes) : noActive (escape a) = true := by
  induction a with
  | nil => rfl
  | cons b r ih => rw [escape_cons, noActive_escByte_append]; exact ih

theorem unescapeText_escape (a : Bytes) : unescapeText (escape a) = some a := by
  unfold unescapeText
  induction a with
  | nil => rfl
  | cons b r ih => rw [escape_cons, unescapeTextAux_escByte, ih]; rfl

theorem noActive_no_raw (x : Bytes) (c : UInt8) (hc : c = 0x3C ∨ c = 0x3E ∨ c = 0x22)
    (h : noActive x = true) : c ∉ x := by
  induction x with
  | nil => simp
  | cons b r ih =>
    simp only [noActive, Bool.and_eq_true] at h
    have h1 := h.1
    intro hm
    rcases List.mem_cons.mp hm with rfl | hm
    · rcases hc with rfl | rfl | rfl <;> simp at h1
    · exact ih h.2 hm

theorem escapeHref_nil : escapeHref [] = [] := rfl
theorem escapeHref_cons (b : UInt8) (r : Bytes) : escapeHref (b :: r) = hrefByte b ++ escapeHref r := by
  simp [escapeHref]

theorem hrefByte_safe (b : UInt8) (h : hrefSafe b = true) : hrefByte b = [b] := by
  simp [hrefByte, h]

theorem hrefByte_cases {P : UInt8 → Bytes → Prop} (safe : ∀ b, hrefSafe b = true → P b [b])
    (amp : P 0x26 entAmp) (apos : P 0x27 entApos)
    (pct : ∀ b, hrefSafe b = false → b ≠ 0x26 → b ≠ 0x27 → P b (pctByte b)) (b : UInt8) :
    P b (hrefByte b) := by
  unfold hrefByte
  split
  · rename_i h; exact safe b h
  · rename_i h
    split
    · rename_i e; subst e; exact amp
    · split
      · rename_i e; subst e; exact apos
      · rename_i h1 h2; exact pct b (by simpa using h) h1 h2

theorem escapeHrefLoop_eq (p bs : Bytes) : escapeHrefLoop p bs = p ++ escapeHref bs := by
  induction bs generalizing p with
  | nil => simp [escapeHrefLoop, escapeHref]
  | cons b r ih =>
    simp only [escapeHrefLoop, escapeHref_cons]
    split
    · rename_i h; rw [ih, hrefByte_safe b h]; simp
    · rw [ih]; simp

theorem hrefSafe_ne_amp : ∀ b : UInt8, hrefSafe b = true → b ≠ 0x26 := by
  rintro _ h rfl
  exact absurd h (by decide)

/-- Hex digits are ASCII letters or digits, so `escape_href` leaves them alone. -/
theorem hrefSafe_of_hex (c : UInt8) (h : (hexVal? c).isSome = true) : hrefSafe c = true := by
  have hal : isAsciiAlnum c = true := by
    unfold hexVal? at h
    simp only [isAsciiAlnum, isAsciiAlpha, isAsciiDigit]
    split at h
    · simp_all
    · split at h
      · rename_i h1
        simp only [Bool.and_eq_true, decide_eq_true_eq] at h1
        simp [h1.1, UInt8.le_trans h1.2 (by decide : (0x46 : UInt8) ≤ 0x5A)]
      · split at h
        · rename_i h1
          simp only [Bool.and_eq_true, decide_eq_true_eq] at h1
          simp [h1.1, UInt8.le_trans h1.2 (by decide : (0x66 : UInt8) ≤ 0x7A)]
        · simp at h
  simp [hrefSafe, hal]

theorem hexVal_hexDigit : ∀ n : UInt8, n < 16 → hexVal? (hexDigit n) = some n :=
  forall_uint8_of_fin (by decide +kernel)

theorem nibbles : ∀ b : UInt8,
    b >>> 4 < 16 ∧ b &&& 0xF < 16 ∧ ((b >>> 4) <<< 4 ||| (b &&& 0xF)) = b :=
  forall_uint8_of_fin (by decide +kernel)

theorem hex_roundtrip (b : UInt8) :
    hexVal? (hexDigit (b >>> 4)) = some (b >>> 4) ∧
    hexVal? (hexDigit (b &&& 0xF)) = some (b &&& 0xF) ∧
    ((b >>> 4) <<< 4 ||| (b &&& 0xF)) = b :=
  have ⟨hh, hl, hr⟩ := nibbles b
  ⟨hexVal_hexDigit _ hh, hexVal_hexDigit _ hl, hr⟩

theorem pctByte_safe (b c : UInt8) (hc : c ∈ pctByte b) : hrefSafe c = true := by
  obtain ⟨h1, h2, _⟩ := hex_roundtrip b
  simp only [pctByte, List.mem_cons, List.not_mem_nil, or_false] at hc
  rcases hc with rfl | rfl | rfl
  · decide
  · exact hrefSafe_of_hex _ (by rw [h1]; rfl)
  · exact hrefSafe_of_hex _ (by rw [h2]; rfl)

theorem hrefAlphabet_safe_append (x s : Bytes) (hx : ∀ c ∈ x, hrefSafe c = true) :
    hrefAlphabet (x ++ s) = hrefAlphabet s := by
  induction x with
  | nil => rfl
  | cons c r ih =>
    simp only [List.mem_cons, forall_eq_or_imp] at hx
    simp [hrefAlphabet, hx.1, ih hx.2]

theorem hrefAlphabet_hrefByte_append (b : UInt8) (s : Bytes) :
    hrefAlphabet (hrefByte b ++ s) = hrefAlphabet s := by
  refine hrefByte_cases (P := fun _ e => hrefAlphabet (e ++ s) = hrefAlphabet s) ?_ rfl rfl ?_ b
  · intro b h
    exact hrefAlphabet_safe_append [b] s (by simpa using h)
  · intro b _ _ _
    exact hrefAlphabet_safe_append _ s (pctByte_safe b)

theorem escapeHref_hrefAlphabet (a : Bytes) : hrefAlphabet (escapeHref a) = true := by
  induction a with
  | nil => rfl
  | cons b r ih => rw [escapeHref_cons, hrefAlphabet_hrefByte_append]; exact ih

/-- One-pass decoder for `escape_href` output: `&amp;`, `&#x27;`, `%XY`. -/
def hrefDecodeAux (skip : Nat) : Bytes → Bytes
  | [] => []
  | b :: r =>
    match skip with
    | k + 1 => hrefDecodeAux k r
    | 0 =>
      if isPrefixB entAmp (b :: r) then 0x26 :: hrefDecodeAux 4 r
      else if isPrefixB entApos (b :: r) then 0x27 :: hrefDecodeAux 5 r
      else if b = 0x25 then
        match r with
        | h :: l :: _ =>
          match hexVal? h, hexVal? l with
          | some x, some y => (x <<< 4 ||| y) :: hrefDecodeAux 2 r
          | _, _ => b :: hrefDecodeAux 0 r
        | _ => b :: hrefDecodeAux 0 r
      else b :: hrefDecodeAux 0 r

def hrefDecode (bs : Bytes) : Bytes := hrefDecodeAux 0 bs

def twoHexPrefix : Bytes → Bool
  | h :: l :: _ => (hexVal? h).isSome && (hexVal? l).isSome
  | _ => false

/-- What a percent decoder does at a `%` followed by `r`: two hex digits give their byte, anything
    else leaves the `%` alone. -/
def pctStep (r : Bytes) (hex : UInt8 → Bytes) (other : Bytes) : Bytes :=
  match r with
  | h :: l :: _ =>
    match hexVal? h, hexVal? l with
    | some x, some y => hex (x <<< 4 ||| y)
    | _, _ => other
  | _ => other

theorem pctStep_hex {a b x y : UInt8} {t : Bytes} {hex : UInt8 → Bytes} {other : Bytes}
    (ha : hexVal? a = some x) (hb : hexVal? b = some y) :
    pctStep (a :: b :: t) hex other = hex (x <<< 4 ||| y) := by
  simp only [pctStep, ha, hb]

theorem pctStep_other {r : Bytes} {hex : UInt8 → Bytes} {other : Bytes} (h : twoHexPrefix r = false) :
    pctStep r hex other = other := by
  match r, h with
  | [], _ => rfl
  | [_], _ => rfl
  | x :: y :: r, h =>
    simp only [twoHexPrefix] at h
    cases hx : hexVal? x <;> cases hy : hexVal? y <;> simp_all [pctStep]

theorem hrefDecodeAux_pct (r : Bytes) :
    hrefDecodeAux 0 (0x25 :: r) = pctStep r (· :: hrefDecodeAux 2 r) (0x25 :: hrefDecodeAux 0 r) := rfl

theorem hrefDecodeAux_pct_literal (rest : Bytes) (h : twoHexPrefix rest = false) :
    hrefDecodeAux 0 (0x25 :: rest) = 0x25 :: hrefDecodeAux 0 rest := by
  rw [hrefDecodeAux_pct, pctStep_other h]

theorem hrefDecodeAux_hrefByte (b : UInt8) (hb : b ≠ 0x25) (rest : Bytes) :
    hrefDecodeAux 0 (hrefByte b ++ rest) = b :: hrefDecodeAux 0 rest := by
  refine hrefByte_cases
    (P := fun b e => b ≠ 0x25 → hrefDecodeAux 0 (e ++ rest) = b :: hrefDecodeAux 0 rest)
    ?_ (fun _ => rfl) (fun _ => rfl) ?_ b hb
  · intro b hs hb
    have := (hrefSafe_ne_amp b hs).symm
    simp [hrefDecodeAux, isPrefixB, entAmp, entApos, this, hb]
  · intro b _ _ _ _
    obtain ⟨h1, h2, h3⟩ := hex_roundtrip b
    show hrefDecodeAux 0 (0x25 :: hexDigit (b >>> 4) :: hexDigit (b &&& 0xF) :: rest) = _
    rw [hrefDecodeAux_pct, pctStep_hex h1 h2, h3]
    rfl

/-- No `%` of the input is followed by two hex digits: the input holds no text that already
    reads as a percent escape. -/
def noPctEscape : Bytes → Bool
  | [] => true
  | b :: r => !(b == 0x25 && twoHexPrefix r) && noPctEscape r

theorem twoHexPrefix_of_not_hex {h : UInt8} (s : Bytes) (hh : (hexVal? h).isSome = false) :
    twoHexPrefix (h :: s) = false := by
  cases s <;> simp [twoHexPrefix, hh]

theorem twoHexPrefix_flatMap (f : UInt8 → Bytes)
    (hex : ∀ b, (hexVal? b).isSome = true → f b = [b])
    (other : ∀ b, (hexVal? b).isSome = false → ∃ h t, f b = h :: t ∧ (hexVal? h).isSome = false)
    (r : Bytes) : twoHexPrefix (r.flatMap f) = twoHexPrefix r := by
  have head : ∀ c s, (hexVal? c).isSome = false → twoHexPrefix (f c ++ s) = false := by
    intro c s hc
    obtain ⟨h, t, e, hh⟩ := other c hc
    rw [e]; exact twoHexPrefix_of_not_hex _ hh
  match r with
  | [] => rfl
  | c :: r' =>
    rw [List.flatMap_cons]
    cases hc : (hexVal? c).isSome with
    | false => rw [head c _ hc, twoHexPrefix_of_not_hex _ hc]
    | true =>
      rw [hex c hc]
      match r' with
      | [] => rfl
      | c2 :: r'' =>
        rw [List.flatMap_cons]
        cases hc2 : (hexVal? c2).isSome with
        | true => rw [hex c2 hc2]; rfl
        | false =>
          obtain ⟨h, t, e, hh⟩ := other c2 hc2
          simp [e, twoHexPrefix, hc2, hh]

theorem twoHexPrefix_escapeHref (r : Bytes) : twoHexPrefix (escapeHref r) = twoHexPrefix r := by
  refine twoHexPrefix_flatMap hrefByte (fun b h => hrefByte_safe b (hrefSafe_of_hex b h)) ?_ r
  refine hrefByte_cases
    (P := fun b e => (hexVal? b).isSome = false → ∃ h t, e = h :: t ∧ (hexVal? h).isSome = false)
    ?_ ?_ ?_ ?_
  · exact fun b _ hb => ⟨b, [], rfl, hb⟩
  · exact fun _ => ⟨_, _, rfl, by decide⟩
  · exact fun _ => ⟨_, _, rfl, by decide⟩
  · exact fun b _ _ _ _ => ⟨_, _, rfl, by decide⟩

end Comrak
