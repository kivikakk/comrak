/-
The explicit work-stack traversal writes the tokens of the recursive renderer.
-/
import Comrak.XmlStack
namespace Comrak
open Bytes

/-- The recursive renderer in the machine's terms. -/
theorem renderXmlT_node (o : XmlOpts) (ind : Nat) (cx : XCtx) (v : NodeValue) (sp : Sp) (cs : Forest) :
    renderXmlT o ind cx (.node v sp cs) =
      enterTok o ind cx v sp (!cs.isNil) ::
        (if cs.isNil then [] else renderXmlF o (ind + 2) (some v) cx.parent 0 cs ++ [.close ind (xmlName v)]) := by
  simp only [renderXmlT, enterTok]
  cases xmlLiteral v <;> cases cs <;> rfl

/- Fuel is counted additively: a subtree uses exactly two iterations per node and hands the
   remaining `k` on, so no side condition on the fuel is needed. -/
mutual
theorem xmlLoop_tree (o : XmlOpts) :
    ∀ (t : Tree) (cx : XCtx) (ind : Nat) (st : List XWork) (k : Nat),
      xmlLoop o (2 * t.size + k) (.pre t cx :: st) ind = renderXmlT o ind cx t ++ xmlLoop o k st ind
  | .node v sp cs, cx, ind, st, k => by
    have hfuel : 2 * (Tree.node v sp cs).size + k = (2 * cs.size + (k + 1)) + 1 := by
      simp only [Tree.size]; omega
    -- the `Pre` step, the children, the `Post` step
    rw [hfuel, xmlLoop, xmlLoop_children o cs, xmlLoop, renderXmlT_node]
    cases cs with
    | nil => rfl
    | cons c r => simp [Forest.isNil]
theorem xmlLoop_children (o : XmlOpts) :
    ∀ (f : Forest) (parent grand : Option NodeValue) (idx ind : Nat) (st : List XWork) (k : Nat),
      xmlLoop o (2 * f.size + k) (childWork parent grand idx f ++ st) ind =
        renderXmlF o ind parent grand idx f ++ xmlLoop o k st ind
  | .nil, _, _, _, _, _, k => by simp [childWork, renderXmlF, Forest.size]
  | .cons t ts, parent, grand, idx, ind, st, k => by
    have hfuel : 2 * (Forest.cons t ts).size + k = 2 * t.size + (2 * ts.size + k) := by
      simp only [Forest.size]; omega
    rw [hfuel, childWork, List.cons_append, xmlLoop_tree o t, xmlLoop_children o ts, renderXmlF,
      List.append_assoc]
end

theorem xmlLoop_forest (o : XmlOpts) :
    ∀ (f : Forest) (parent grand : Option NodeValue) (idx ind : Nat) (st : List XWork) (fuel : Nat),
      2 * f.size ≤ fuel →
      xmlLoop o fuel (childWork parent grand idx f ++ st) ind =
        renderXmlF o ind parent grand idx f ++ xmlLoop o (fuel - 2 * f.size) st ind := by
  intro f parent grand idx ind st fuel h
  have := xmlLoop_children o f parent grand idx ind st (fuel - 2 * f.size)
  rwa [Nat.add_sub_cancel' h] at this

theorem xmlLoop_zero (o : XmlOpts) (st : List XWork) (ind : Nat) : xmlLoop o 0 st ind = [] := by
  cases st <;> rfl

theorem renderXmlStack_eq (o : XmlOpts) (t : Tree) : renderXmlStack o t = renderXmlToks o t := by
  unfold renderXmlStack renderXmlToks
  rw [← Nat.add_zero (2 * t.size), xmlLoop_tree o t {} 0 [] 0, xmlLoop_zero, List.append_nil]

end Comrak
