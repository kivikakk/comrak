/-
Frame lemmas for the CommonMark writer model: nothing `output` does touches the container prefix
or the ordered-list stack; `format_item` therefore removes on exit exactly what it added on entry.
-/
import Comrak.Cm
open Comrak Bytes Comrak.Cm
namespace Comrak.Cm

def SameFrame (a b : St) : Prop := b.prefix_ = a.prefix_ ∧ b.olStack = a.olStack

theorem SameFrame.rfl' (a : St) : SameFrame a a := ⟨rfl, rfl⟩
theorem SameFrame.trans {a b c : St} (h1 : SameFrame a b) (h2 : SameFrame b c) : SameFrame a c :=
  ⟨h2.1.trans h1.1, h2.2.trans h1.2⟩

theorem SameFrame.ite {a x y : St} {c : Prop} [Decidable c] (hx : SameFrame a x) (hy : SameFrame a y) :
    SameFrame a (if c then x else y) := by
  split <;> assumption

theorem crFlush_frame (st : St) : SameFrame st (crFlush st) := .ite ⟨rfl, rfl⟩ ⟨rfl, rfl⟩

theorem pre_frame (e : Bool) (st : St) (c : UInt8) : SameFrame st (pre e st c) :=
  have h : SameFrame st (if st.beginLine then { st with rv := st.prefix_.reverse ++ st.rv, column := st.prefix_.length } else st) :=
    .ite ⟨rfl, rfl⟩ ⟨rfl, rfl⟩
  .ite ⟨h.1, h.2⟩ h

theorem wrapCheck_frame (o : CmOpts) (st : St) : SameFrame st (wrapCheck o st) := .ite ⟨rfl, rfl⟩ ⟨rfl, rfl⟩

theorem litByte_frame (st : St) (c : UInt8) : SameFrame st (litByte st c) := .ite ⟨rfl, rfl⟩ ⟨rfl, rfl⟩

theorem outLitLoop_frame (o : CmOpts) (e : Bool) (bs : Bytes) (st : St) : SameFrame st (outLitLoop o e st bs) := by
  induction bs generalizing st with
  | nil => exact ⟨rfl, rfl⟩
  | cons c r ih =>
    unfold outLitLoop
    exact ((pre_frame e st c).trans (litByte_frame _ c)).trans ((wrapCheck_frame o _).trans (ih _))

theorem outc_frame (o : CmOpts) (e : Bool) (st : St) (c : UInt8) (esc : Esc) (nx : Option UInt8) :
    SameFrame st (outc o e st c esc nx) :=
  have hl := outLitLoop_frame o e ([0x26, 0x23] ++ ofNatDec c.toNat ++ [0x3B]) st
  .ite (.ite ⟨rfl, rfl⟩ (.ite ⟨rfl, rfl⟩ ⟨hl.1, hl.2⟩)) ⟨rfl, rfl⟩

theorem outLoop_frame (o : CmOpts) (e w : Bool) (esc : Esc) (f : Nat) (st : St) (bs : Bytes) :
    SameFrame st (outLoop o e w esc f st bs) := by
  induction f generalizing st bs with
  | zero => unfold outLoop; exact ⟨rfl, rfl⟩
  | succ f ih =>
    cases bs with
    | nil => unfold outLoop; exact ⟨rfl, rfl⟩
    | cons c r =>
      unfold outLoop; simp only []
      have hp := pre_frame e st c
      split
      · split
        · refine hp.trans (SameFrame.trans (SameFrame.trans ?_ (wrapCheck_frame o _)) (ih _ _))
          unfold SameFrame; constructor <;> (repeat' split) <;> rfl
        · exact hp.trans ((wrapCheck_frame o _).trans (ih _ _))
      · split
        · exact hp.trans (((litByte_frame _ c).trans (wrapCheck_frame o _)).trans (ih _ _))
        · exact hp.trans (((outc_frame o e _ c esc _).trans (SameFrame.trans (b := { outc o e (pre e st c) c esc r.head? with beginLine := false, beginContent := (outc o e (pre e st c) c esc r.head?).beginContent && isAsciiDigit c }) ⟨rfl, rfl⟩ (wrapCheck_frame o _))).trans (ih _ _))

theorem output_frame (o : CmOpts) (e : Bool) (st : St) (b : Bytes) (w : Bool) (esc : Esc) :
    SameFrame st (output o e st b w esc) := by
  unfold output; exact (crFlush_frame st).trans (outLoop_frame ..)

theorem wr_frame (o : CmOpts) (e : Bool) (bs : Bytes) (st : St) : SameFrame st (wr o e bs st) := by
  unfold wr; split
  · exact ⟨rfl, rfl⟩
  · exact output_frame ..

def behindMarker (n : Nat) (t : St) : St := { t with beginContent := true, prefix_ := t.prefix_ ++ spaces n }

/-- The number `format_item` writes: the top of the ordered-list stack, else the item's own start. -/
def itemNumber (own : Nat) (s : St) : Nat :=
  match s.olStack with
  | n :: _ => n
  | [] => own

def nextNumber (s : St) : St :=
  match s.olStack with
  | n :: r => { s with olStack := (n + 1) :: r }
  | [] => s

def markerWidth (o : CmOpts) (pl : NList) (k : Nat) : Nat :=
  if pl.ty == .bullet then 2 else (olMarker o k pl.delim).length

def itemMarker (o : CmOpts) (pl : NList) (k : Nat) : Bytes :=
  if pl.ty == .bullet then [o.listStyle, 0x20] else olMarker o k pl.delim

theorem itemMarker_length (o : CmOpts) (pl : NList) (k : Nat) : (itemMarker o pl k).length = markerWidth o pl k := by
  unfold itemMarker markerWidth
  split <;> rfl

theorem fmtItem_enter_eq (o : CmOpts) (ep : Bool) (pl : NList) (own : Nat) (s : St) :
    fmtItem o ep pl own true s =
      behindMarker (markerWidth o pl (itemNumber own s))
        (wr o ep (itemMarker o pl (itemNumber own s)) (if pl.ty == .ordered then nextNumber s else s)) := by
  unfold fmtItem itemMarker markerWidth
  simp only [Bool.and_true, if_true]
  split <;> rfl

/-- The number `format_item` takes when an item ends: one back from the top of the stack. -/
def exitNumber (own : Nat) (s : St) : Nat :=
  match s.olStack with
  | n :: _ => n - 1
  | [] => own

theorem fmtItem_exit_eq (o : CmOpts) (ep : Bool) (pl : NList) (own : Nat) (s : St) :
    fmtItem o ep pl own false s =
      St.cr { s with prefix_ := s.prefix_.take (if s.prefix_.length > markerWidth o pl (exitNumber own s)
          then s.prefix_.length - markerWidth o pl (exitNumber own s) else 0) } := by
  unfold fmtItem markerWidth exitNumber
  simp only [Bool.and_false, Bool.false_eq_true, if_false]
  rfl

theorem take_trunc (P : Bytes) (n : Nat) :
    (P ++ spaces n).take (if (P ++ spaces n).length > n then (P ++ spaces n).length - n else 0) = P := by
  have hl : (P ++ spaces n).length = P.length + n := by simp [spaces]
  rw [hl]
  split
  · rw [show P.length + n - n = P.length by omega]; simp
  · have : P.length = 0 := by omega
    simp [List.length_eq_zero_iff.mp this]

theorem fmtItem_exit_restores_prefix (o : CmOpts) (ep ep' : Bool) (pl : NList) (s : Nat) (st st2 : St)
    (h : SameFrame (fmtItem o ep pl s true st) st2) :
    (fmtItem o ep' pl s false st2).prefix_ = st.prefix_ := by
  obtain ⟨hp, hs⟩ := h
  rw [fmtItem_enter_eq] at hp hs
  rw [fmtItem_exit_eq]
  show st2.prefix_.take _ = _
  have h1 : st2.prefix_ = st.prefix_ ++ spaces (markerWidth o pl (itemNumber s st)) := by
    rw [hp]
    refine congrArg (· ++ spaces _) ((wr_frame ..).1.trans ?_)
    split
    · unfold nextNumber; split <;> rfl
    · rfl
  -- the number taken on exit is the one written on entry: the stack was moved on by one in between
  have h2 : markerWidth o pl (exitNumber s st2) = markerWidth o pl (itemNumber s st) := by
    unfold markerWidth
    cases hty : pl.ty
    · rfl
    · have : st2.olStack = (nextNumber st).olStack := by
        rw [hs, hty]
        exact (wr_frame ..).2
      unfold exitNumber itemNumber
      rw [this]
      unfold nextNumber
      cases hst : st.olStack <;> simp [hst]
  rw [h2, h1]
  exact take_trunc _ _
end Comrak.Cm
