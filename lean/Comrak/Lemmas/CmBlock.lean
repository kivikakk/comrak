/-
The writer on blocks of the canonical class (`Blk.cmOk`): a block whose lines are `Blk.lines`
leaves them behind the container prefix with a blank line pending (`blkOut`); containers put their
marker before the first line and lengthen the prefix for the others; a document comes out as
`Doc.write` spells it (`cm_fixed`).
-/
import Comrak.Lemmas.CmInline
import Comrak.Lemmas.CmFrame
import Comrak.Lemmas.Cm
namespace Comrak.CmCanon
open Comrak Bytes Comrak.Cm Comrak.Canon

/-- Lines written in a container whose prefix is `P`: the first one continues the current line, every
    other one starts a new line behind the prefix. -/
def Tx (P : Bytes) : List Bytes → Bytes
  | [] => []
  | p :: t => p ++ t.flatMap (fun q => 0x0A :: (P ++ q))

theorem Tx_single (P x : Bytes) : Tx P [x] = x := by simp [Tx]

theorem Tx_cons (P l : Bytes) (L : List Bytes) (h : L ≠ []) : Tx P (l :: L) = l ++ 0x0A :: (P ++ Tx P L) := by
  cases L with
  | nil => exact absurd rfl h
  | cons p t => simp [Tx]

theorem line_or_lines : ∀ x : Bytes, (nlFree x = true ∧ splitNl x = [x]) ∨
    ∃ l rest, nlFree l = true ∧ x = l ++ 0x0A :: rest
  | [] => Or.inl ⟨rfl, rfl⟩
  | b :: r => by
    by_cases hb : b = 0x0A
    · exact Or.inr ⟨[], r, rfl, by rw [hb]; rfl⟩
    · have hcons : ∀ y : Bytes, nlFree y = true → nlFree (b :: y) = true := fun y hy => by
        show ((b != 0x0A) && nlFree y) = true
        rw [hy, bne_iff_ne.mpr hb]; rfl
      rcases line_or_lines r with ⟨h1, h2⟩ | ⟨l, rest, h1, h2⟩
      · exact Or.inl ⟨hcons r h1, by rw [splitNl_other b r hb, h2]; rfl⟩
      · exact Or.inr ⟨b :: l, rest, hcons l h1, by rw [h2]; rfl⟩

theorem splitNl_nlFree (x : Bytes) (h : nlFree x = true) : splitNl x = [x] := by
  rcases line_or_lines x with ⟨_, h2⟩ | ⟨l, rest, _, rfl⟩
  · exact h2
  · simp [nlFree] at h

theorem lead_aCr_aW (l : Bytes) (a : Core) (h : l ≠ []) : (aCr (aW l a)).lead = 0x0A :: a.pfx := by
  have hr : (aCr (aW l a)).rv.isEmpty = false := by cases l <;> simp_all [aCr, aW]
  have hn : (aCr (aW l a)).need = 1 := rfl
  have hp : (aCr (aW l a)).pfx = a.pfx := rfl
  simp [Core.lead, Core.n, hr, hn, hp, nls]

theorem feedA_closed (x : Bytes) (a : Core) (hx : x ≠ []) (hall : allNonempty (splitNl x) = true) :
    feedA x a = aW (Tx a.pfx (splitNl x)) a := by
  rcases line_or_lines x with ⟨h1, h2⟩ | ⟨l, rest, h1, h2⟩
  · rw [feedA_nlFree x a hx h1, h2, Tx_single]
  · rw [h2, splitNl_line l rest h1] at hall ⊢
    rw [allNonempty_cons] at hall
    have hrest : rest ≠ [] := by
      intro e; subst e; simp [splitNl, allNonempty] at hall
    have ih := feedA_closed rest (aCr (aW l a)) hrest hall.2
    rw [feedA_append, feedA_cons, if_pos rfl, feedA_nlFree l a hall.1 h1, ih, Tx_cons _ _ _ (splitNl_ne_nil rest), aW,
      lead_aCr_aW l a hall.1]
    simp [aCr, aW]
termination_by x.length
decreasing_by subst h2; simp; omega

theorem Tx_ne_nil (P : Bytes) : ∀ (L : List Bytes), L ≠ [] → allNonempty L = true → Tx P L ≠ []
  | [], h, _ => absurd rfl h
  | p :: t, _, h => by
    rw [allNonempty_cons] at h
    simp [Tx, h.1]

theorem Tx_append (P : Bytes) (A B : List Bytes) (hA : A ≠ []) :
    Tx P (A ++ B) = Tx P A ++ B.flatMap (fun q => 0x0A :: (P ++ q)) := by
  cases A with
  | nil => exact absurd rfl hA
  | cons a t => simp [Tx, List.flatMap_append]

theorem Tx_prefixed (P pre : Bytes) : ∀ (t : List Bytes),
    (t.map (pre ++ ·)).flatMap (fun q => 0x0A :: (P ++ q)) = t.flatMap (fun q => 0x0A :: ((P ++ pre) ++ q))
  | [] => rfl
  | x :: t => by simp only [List.map_cons, List.flatMap_cons, Tx_prefixed P pre t, List.append_assoc]

theorem joinLines_Tx : ∀ (L : List Bytes), L ≠ [] → Canon.joinLines L = Tx [] L ++ [0x0A]
  | [], h => absurd rfl h
  | [x], _ => by simp [Canon.joinLines, Tx]
  | x :: y :: t, _ => by
    have ih := joinLines_Tx (y :: t) (by simp)
    simp only [Canon.joinLines, List.flatMap_cons] at ih ⊢
    rw [ih]
    simp [Tx]

theorem Tx_last (P : Bytes) : ∀ (L : List Bytes), L ≠ [] → ∃ pre, Tx P L = pre ++ L.getLastD [] ∧ L.getLastD [] ∈ L
  | [], h => absurd rfl h
  | [x], _ => ⟨[], by simp [Tx]⟩
  | x :: y :: t, _ => by
    obtain ⟨pre, ih, hm⟩ := Tx_last P (y :: t) (by simp)
    refine ⟨x ++ 0x0A :: (P ++ pre), ?_, List.mem_cons_of_mem _ hm⟩
    rw [Tx_cons P x _ (by simp), ih]
    simp

def _root_.Comrak.Canon.Blk.isHr : Blk → Bool | .hr .. => true | _ => false
def _root_.Comrak.Canon.Blk.isList : Blk → Bool | .list .. => true | _ => false
def _root_.Comrak.Canon.Blks.headIsList : Blks → Bool | .cons b _ => b.isList | .nil => false

mutual
/-- Blocks the writer spells exactly as `Blk.lines` does (the class is described at
    `C17.cm_fixed_point_canon_partial`). `T`: the tightness the writer is in (a quote holds a list
    only where it is off); `first`: right behind a list marker or `>`, where the writer starts a new
    line before a thematic break. All lines of an item are non-empty because the writer puts the
    container prefix on blank lines and `Doc.write` does not; never two lists in a row because the
    writer puts `<!-- end list -->` between them. -/
def _root_.Comrak.Canon.Blk.cmOk (T : Bool) : Blk → Bool
  | .para is => !is.src.isEmpty && is.cmOk true false false && allNonempty (splitNl is.src)
  | .heading lv is => decide (1 ≤ lv) && !is.src.isEmpty && is.cmOk false false false && nlFree is.src
  | .hr c n => c == 0x2D && n == 5
  | .quote bs => bs.length == 1 && (!T || !bs.headIsList) && bs.cmOk T true && allNonempty (bs.lines false)
  | .list m items => (m.ordered || m.bullet == 0x2D) && !items.isNil && items.cmOk m
  | _ => false
def _root_.Comrak.Canon.Blks.cmOk (T first : Bool) : Blks → Bool
  | .nil => true
  | .cons b r => !(first && b.isHr) && b.cmOk T && !(b.isList && r.headIsList) && r.cmOk T false
def _root_.Comrak.Canon.Items.cmOk (m : Marker) : Items → Bool
  | .nil => true
  | .cons t bs r => nlFree t.src && !bs.isNil && bs.cmOk m.tight true && allNonempty (bs.lines m.tight) && r.cmOk m
end

theorem core_tightened (cx : Ctx) (s : Cm.St) (T : Bool) (h1 : isItemV cx.parent = true → grandTight cx = T)
    (h2 : isItemV cx.parent = false → s.inTight = T) : core (tightened cx s) = { core s with tight := T } := by
  unfold tightened
  cases hi : isItemV cx.parent
  · have := h2 hi
    simp [core, ← this]
  · have := h1 hi
    simp [core, this]

/-- What a block writes: its lines behind the lead, then two line ends pending. -/
def blkOut (a : Core) (T : Bool) (L : List Bytes) : Core :=
  { a with rv := (Tx a.pfx L).reverse ++ ({ a with tight := T } : Core).lead.reverse ++ a.rv, need := 2, bol := false, tight := T }

theorem core_tight (s : Cm.St) : (core s).tight = s.inTight := rfl

theorem good_tight (a : Core) (T : Bool) (g : Good a) : Good { a with tight := T } := ⟨g.ce, g.nc, g.hd⟩

/-- What a block starts from; `enter` puts the state at tightness `T`. -/
structure BlkReady (T : Bool) (cx : Ctx) (s : Cm.St) : Prop where
  good : Good (core s)
  nolb : s.noLinebreaks = false
  tight : core (tightened cx s) = { core s with tight := T }

theorem BlkReady.goodT {T : Bool} {cx : Ctx} {s : Cm.St} (r : BlkReady T cx s) : Good (core (tightened cx s)) := by
  rw [r.tight]; exact good_tight _ _ r.good

theorem good_blkOut (a : Core) (T : Bool) (L : List Bytes) (g : Good a) (hL : L ≠ []) (hl : L.getLastD [] ≠ []) (hn : L.all nlFree = true) :
    Good (blkOut a T L) := by
  refine ⟨g.ce, by simp [blkOut], ?_⟩
  -- the last byte written is the last byte of the last line
  obtain ⟨pre, hp, hmem⟩ := Tx_last a.pfx L hL
  obtain ⟨b, hb⟩ := dropLast_append_last _ hl
  have hqn := List.all_eq_true.mp hn _ hmem
  rw [hb, nlFree_append] at hqn
  simp only [Bool.and_eq_true, nlFree, List.all_cons, List.all_nil, Bool.and_true, bne_iff_ne, ne_eq] at hqn
  simp only [blkOut]
  rw [hp, hb]
  simp [hqn.2]

/-- The escape flag `enter` hands to its writes. -/
def escOn (cx : Ctx) (s : Cm.St) : Bool := (tightened cx s).customEscape && !false

theorem escOn_false (cx : Ctx) (s : Cm.St) (h : s.customEscape = false) : escOn cx s = false := by
  unfold escOn tightened
  split <;> simp [h]

theorem enter_para (cx : Ctx) (s : Cm.St) (cs : Forest) : enter {} cx .paragraph cs s = (tightened cx s, true) := rfl
theorem exit_para (cx : Ctx) (s : Cm.St) : exit {} cx .paragraph s = s.blankline := rfl
theorem enter_doc (cx : Ctx) (s : Cm.St) (cs : Forest) : enter {} cx .document cs s = (tightened cx s, true) := rfl
theorem exit_doc (cx : Ctx) (s : Cm.St) : exit {} cx .document s = s := rfl

def headingOpen (t : Cm.St) : Cm.St := { t with beginContent := true, noLinebreaks := true }
theorem core_headingOpen (t : Cm.St) : core (headingOpen t) = { core t with nolb := true } := rfl
theorem enter_heading (cx : Ctx) (s : Cm.St) (cs : Forest) (lv : Nat) (se : Bool) :
    enter {} cx (.heading lv se) cs s =
      (headingOpen (wr {} (escOn cx s) [0x20] (wr {} (escOn cx s) (List.replicate lv 0x23) (tightened cx s))), true) := rfl
theorem core_exit_heading (cx : Ctx) (s : Cm.St) (lv : Nat) (se : Bool) :
    core (exit {} cx (.heading lv se) s) = aBlank { core s with nolb := false } := rfl

theorem enter_hr (cx : Ctx) (s : Cm.St) (cs : Forest) :
    enter {} cx .thematicBreak cs s =
      ((wr {} (escOn cx s) [0x2D, 0x2D, 0x2D, 0x2D, 0x2D] (tightened cx s).blankline).blankline, true) := rfl
theorem exit_hr (cx : Ctx) (s : Cm.St) : exit {} cx .thematicBreak s = s := rfl

def quoteOpen (t : Cm.St) : Cm.St := { t with beginContent := true, prefix_ := t.prefix_ ++ [0x3E, 0x20] }
theorem core_quoteOpen (t : Cm.St) : core (quoteOpen t) = { core t with pfx := (core t).pfx ++ [0x3E, 0x20] } := rfl
theorem enter_quote (cx : Ctx) (s : Cm.St) (cs : Forest) :
    enter {} cx .blockQuote cs s = (quoteOpen (wr {} (escOn cx s) [0x3E, 0x20] (tightened cx s)), true) := rfl
theorem exit_quote (cx : Ctx) (s : Cm.St) : exit {} cx .blockQuote s = (truncPrefix s 2).blankline := rfl

/-- `blkOut` with two tightnesses: `T0` decides the lead, `T1` is left behind. -/
def blkOut2 (a : Core) (T0 T1 : Bool) (L : List Bytes) : Core :=
  { a with rv := (Tx a.pfx L).reverse ++ ({ a with tight := T0 } : Core).lead.reverse ++ a.rv, need := 2, bol := false, tight := T1 }

structure Done (a : Core) : Prop where
  good : Good a
  ne : a.rv ≠ []

/-- The blocks with lines `L` left the core `x` behind: `a'` is `x`, another block may follow it,
    and something was written. -/
abbrev Left (a' x : Core) (L : List Bytes) : Prop := a' = x ∧ Done x ∧ L ≠ []

/-- A block that feeds the text `x` and asks for a blank line leaves the lines of `x`. -/
theorem feed_blkOut (a : Core) (T : Bool) (x : Bytes) (g : Good a) (hx : x ≠ []) (hall : allNonempty (splitNl x) = true) :
    Left (aBlank (feedA x { a with tight := T })) (blkOut a T (splitNl x)) (splitNl x) := by
  have gt := good_tight a T g
  have hcl := feedA_closed x { a with tight := T } hx hall
  have heq : aBlank (feedA x { a with tight := T }) = blkOut a T (splitNl x) := by rw [hcl]; rfl
  refine ⟨heq, heq ▸ ⟨good_aBlank _ (good_feedA _ _ gt), ?_⟩, splitNl_ne_nil _⟩
  rw [hcl]
  simp [aBlank, aW, Tx_ne_nil _ _ (splitNl_ne_nil _) hall]

theorem para_sim (is : Inls) (T : Bool) (h : (Blk.para is).cmOk T = true) (cx : Ctx) (s : Cm.St) (r : BlkReady T cx s) :
    Left (core (renderT {} cx (Blk.para is).toTree s)) (blkOut (core s) T (Blk.para is).lines) (Blk.para is).lines := by
  simp only [Blk.cmOk, Bool.and_eq_true, Bool.not_eq_true', List.isEmpty_eq_false_iff] at h
  obtain ⟨⟨h0, hok⟩, hall⟩ := h
  have gt := r.goodT
  obtain ⟨g, hnl, ht⟩ := r
  have hnl' : (tightened cx s).noLinebreaks = false := by rw [← core_nolb, ht]; exact hnl
  have hsim := inls_sim is true false false hok .paragraph cx.parent false rfl (fun e => by cases e) (fun e => by cases e)
    (tightened cx s) ⟨gt, fun _ => hnl'⟩
  have hcore : core (renderT {} cx (Blk.para is).toTree s) = aBlank (feedA is.src { core s with tight := T }) := by
    simp only [Blk.toTree]
    rw [renderT_eq, enter_para]
    simp only [if_true]
    rw [exit_para, core_blank, hsim, ht]
  rw [hcore]
  exact feed_blkOut (core s) T is.src g h0 hall

theorem heading_sim (lv : Nat) (is : Inls) (T : Bool) (h : (Blk.heading lv is).cmOk T = true) (cx : Ctx) (s : Cm.St)
    (r : BlkReady T cx s) :
    Left (core (renderT {} cx (Blk.heading lv is).toTree s)) (blkOut (core s) T (Blk.heading lv is).lines)
      (Blk.heading lv is).lines := by
  simp only [Blk.cmOk, Bool.and_eq_true, Bool.not_eq_true', List.isEmpty_eq_false_iff, decide_eq_true_eq] at h
  obtain ⟨⟨_, hok⟩, hnf⟩ := h
  have gt := r.goodT
  obtain ⟨g, hnl, ht⟩ := r
  have hline : (Blk.heading lv is).lines = splitNl (List.replicate lv 0x23 ++ [0x20] ++ is.src) :=
    (splitNl_nlFree (List.replicate lv 0x23 ++ [0x20] ++ is.src) (by rw [nlFree_append, hnf]; simp [nlFree, List.all_replicate])).symm
  -- `#`s and the space are two writes in a row
  have c2 := ((writes_wr false (List.replicate lv 0x23) (by simp [nlFree, List.all_replicate])).comp (writes_wr false [0x20] rfl))
    _ ⟨gt, fun e => by cases e⟩
  have g2 := good_feedA (List.replicate lv 0x23 ++ [0x20]) _ gt
  have rd : Ready false (headingOpen (wr {} false [0x20] (wr {} false (List.replicate lv 0x23) (tightened cx s)))) :=
    ⟨by rw [core_headingOpen, c2]; exact ⟨g2.ce, g2.nc, g2.hd⟩, fun e => by cases e⟩
  have hsim := inls_sim is false false false hok (.heading lv false) cx.parent false rfl (fun e => by cases e) (fun e => by cases e)
    _ rd
  -- the heading's content is fed with line breaks off; that flag does not change what is written
  have hcore : core (renderT {} cx (Blk.heading lv is).toTree s) =
      aBlank (feedA (List.replicate lv 0x23 ++ [0x20] ++ is.src) { core s with tight := T }) := by
    show core (renderT {} cx (.node (.heading lv false) {} is.toForest) s) = _
    rw [renderT_eq, enter_heading, escOn_false _ _ g.ce]
    simp only [if_true]
    rw [core_exit_heading, hsim, core_headingOpen, c2, feedA_nolb is.src _ true, ← feedA_append, ht]
    exact congrArg aBlank (congrArg (fun b => ({ feedA _ _ with nolb := b } : Core)) ((feedA_fields _ _).2.2.1.trans hnl)).symm
  rw [hcore, hline]
  exact feed_blkOut (core s) T _ g (by simp) (by rw [← hline]; simp [Blk.lines, allNonempty])

theorem need_two {x : Core} (h : x.need = 2) : aBlank x = x ∧ aCr x = x := by
  cases x
  simp only at h
  subst h
  exact ⟨rfl, rfl⟩

/-- Where two line ends are pending already, or nothing was written yet, asking for a blank line changes nothing. -/
theorem aW_aBlank (x : Bytes) (a : Core) (hp : a.need = 2 ∨ (a.rv = [] ∧ a.bol = true)) :
    aW x (aBlank a) = aW x a := by
  rcases hp with hp | ⟨hp1, hp2⟩
  · rw [(need_two hp).1]
  · obtain ⟨rv, pfx, need, bol, tight, nolb, ce, ol⟩ := a
    subst hp1; subst hp2
    simp [aW, aBlank, Core.lead]

theorem hr_sim (c : UInt8) (n : Nat) (T : Bool) (h : (Blk.hr c n).cmOk T = true) (cx : Ctx) (s : Cm.St) (r : BlkReady T cx s)
    (hp : (core s).need = 2 ∨ ((core s).rv = [] ∧ (core s).bol = true)) :
    Left (core (renderT {} cx (Blk.hr c n).toTree s)) (blkOut (core s) T (Blk.hr c n).lines) (Blk.hr c n).lines := by
  simp only [Blk.cmOk, Bool.and_eq_true, beq_iff_eq] at h
  obtain ⟨hc, hn⟩ := h
  subst hc; subst hn
  have gt := r.goodT
  obtain ⟨g, hnl, ht⟩ := r
  have gb : Good (core (tightened cx s).blankline) := by rw [core_blank]; exact good_aBlank _ gt
  have hcore : core (renderT {} cx (Blk.hr 0x2D 5).toTree s) = aBlank (feedA [0x2D, 0x2D, 0x2D, 0x2D, 0x2D] { core s with tight := T }) := by
    simp only [Blk.toTree, leaf]
    rw [renderT_eq, enter_hr, escOn_false _ _ g.ce]
    simp only [if_true, renderF]
    rw [exit_hr, core_blank, core_wr _ gb _ (by simp) (by decide), core_blank, ht, aW_aBlank _ { core s with tight := T } hp,
      feedA_nlFree _ _ (by simp) (by decide)]
  rw [hcore]
  exact feed_blkOut (core s) T _ g (by simp) (by decide)

theorem lead_after (rv pfx : Bytes) (T nolb ce : Bool) (ol : List Nat) (h : rv ≠ []) :
    (⟨rv, pfx, 2, false, T, nolb, ce, ol⟩ : Core).lead = (if T then [0x0A] ++ pfx else [0x0A] ++ pfx ++ [0x0A] ++ pfx) := by
  have : rv.isEmpty = false := by cases rv <;> simp_all
  cases T <;> simp [Core.lead, Core.n, nls, this]

theorem blkOut2_seq (a : Core) (T0 T1 T2 : Bool) (L1 L2 : List Bytes) (h1 : L1 ≠ []) (h2 : L2 ≠ [])
    (hne : (blkOut2 a T0 T1 L1).rv ≠ []) :
    blkOut2 (blkOut2 a T0 T1 L1) T1 T2 L2 = blkOut2 a T0 T2 (L1 ++ (if T1 then [] else [[]]) ++ L2) := by
  obtain ⟨rv, pfx, need, bol, tight, nolb, ce, ol⟩ := a
  simp only [blkOut2] at hne ⊢
  rw [lead_after _ _ _ _ _ _ hne]
  cases L2 with
  | nil => exact absurd rfl h2
  | cons p t =>
    have hT : Tx pfx ((L1 ++ if T1 = true then [] else [[]]) ++ p :: t) =
        Tx pfx L1 ++ (if T1 = true then [] else [0x0A] ++ pfx) ++ (0x0A :: (pfx ++ Tx pfx (p :: t))) := by
      rw [List.append_assoc, Tx_append _ _ _ h1, List.flatMap_append]
      cases T1 <;> simp [Tx]
    rw [hT]
    cases T1 <;> simp

def setOl (a : Core) (o : List Nat) : Core := { a with ol := o }

/-- The lines of a container's content: `mk` before the first, `ext` before every other one. -/
def behind (mk ext : Bytes) : List Bytes → List Bytes
  | [] => []
  | p :: t => (mk ++ p) :: t.map (ext ++ ·)

theorem behind_core (a : Core) (Tc : Bool) (mk ext : Bytes) (o : List Nat) (L : List Bytes) (h0 : L ≠ []) :
    { blkOut { aW mk a with pfx := a.pfx ++ ext, ol := o } Tc L with pfx := a.pfx } =
      setOl (blkOut2 a a.tight Tc (behind mk ext L)) o := by
  obtain ⟨rv, pfx, need, bol, tight, nolb, ce, ol⟩ := a
  cases L with
  | nil => exact absurd rfl h0
  | cons p t =>
    have hl : ({ ({ aW mk ⟨rv, pfx, need, bol, tight, nolb, ce, ol⟩ with pfx := pfx ++ ext, ol := o } : Core) with tight := Tc } : Core).lead = [] :=
      lead_mid _ ⟨rfl, rfl⟩
    simp only [aW, blkOut, blkOut2, Tx, behind, setOl] at hl ⊢
    rw [hl, Tx_prefixed]
    simp

theorem map_nonempty (f : Bytes → Bytes) (ext : Bytes) (hf : ∀ x, x ≠ [] → f x = ext ++ x) (t : List Bytes)
    (h : allNonempty t = true) : t.map f = t.map (ext ++ ·) :=
  List.map_congr_left fun x hx => hf x (by simpa using List.all_eq_true.mp h x hx)

theorem map_quoteLine : ∀ (L : List Bytes), allNonempty L = true → L.map quoteLine = behind [0x3E, 0x20] [0x3E, 0x20] L
  | [], _ => rfl
  | p :: t, h => by
    have hq : ∀ x : Bytes, x ≠ [] → quoteLine x = [0x3E, 0x20] ++ x
      | [], hx => absurd rfl hx
      | _ :: _, _ => rfl
    rw [allNonempty_cons] at h
    rw [List.map_cons, hq p h.1, map_nonempty _ _ hq t h.2]
    rfl

theorem itemLines_mark (mk : Bytes) (t : Task) : ∀ (L : List Bytes), L ≠ [] → allNonempty L = true →
    itemLines mk (t.mark L) = behind (mk ++ [0x20] ++ t.src) (spaces (mk.length + 1)) L
  | [], h, _ => absurd rfl h
  | p :: r, _, h => by
    have hq : ∀ x : Bytes, x ≠ [] → (if x.isEmpty then [] else rep (mk.length + 1) 0x20 ++ x) = spaces (mk.length + 1) ++ x
      | [], hx => absurd rfl hx
      | _ :: _, _ => rfl
    rw [allNonempty_cons] at h
    simp only [itemLines, Task.mark, behind, map_nonempty _ _ hq r h.2, List.append_assoc]

/-- `enter` writes the marker `mk` and lengthens the prefix by `ext`; `exit` takes the prefix back and asks
    (`keep`) for line ends of which two are pending already. -/
theorem container_step {cx : Ctx} {v : NodeValue} {cs : Forest} {s s1 : Cm.St} {a : Core} {Tc : Bool} {mk ext : Bytes}
    {o : List Nat} {L L' : List Bytes} (keep : Core → Core) (hk : ∀ x : Core, x.need = 2 → keep x = x)
    (ga : Good a) (hna : a.nolb = false) (hm0 : mk ≠ []) (hmn : nlFree mk = true)
    (hen : enter {} cx v cs s = (s1, true)) (h1 : core s1 = { aW mk a with pfx := a.pfx ++ ext, ol := o })
    (ih : Good (core s1) → s1.noLinebreaks = false →
      Left (core (renderF {} (some v) cx.parent false cs s1)) (blkOut (core s1) Tc L) L)
    (hex : ∀ s2, core s2 = blkOut (core s1) Tc L → core (exit {} cx v s2) = keep { core s2 with pfx := a.pfx })
    (hL : L ≠ [] → L' = behind mk ext L) :
    Left (core (renderT {} cx (.node v {} cs) s)) (setOl (blkOut2 a a.tight Tc L') o) L' := by
  have gm := good_aW mk a ga hm0 hmn
  obtain ⟨e2, d2, n2⟩ := ih (by rw [h1]; exact ⟨gm.ce, gm.nc, gm.hd⟩) (by show (core s1).nolb = false; rw [h1]; exact hna)
  obtain rfl := hL n2
  have e : core (renderT {} cx (.node v {} cs) s) = setOl (blkOut2 a a.tight Tc (behind mk ext L)) o := by
    rw [renderT_eq, hen]
    simp only [if_true]
    rw [hex _ e2, hk _ (by rw [e2]; rfl), e2, h1, behind_core _ _ _ _ _ _ n2]
  refine ⟨e, ?_, by cases L with | nil => exact absurd rfl n2 | cons _ _ => simp [behind]⟩
  rw [← behind_core _ _ _ _ _ _ n2, ← h1]
  exact ⟨⟨d2.good.ce, d2.good.nc, d2.good.hd⟩, d2.ne⟩

theorem core_trunc (s : Cm.St) (P X : Bytes) (h : s.prefix_ = P ++ X) :
    core (truncPrefix s X.length) = { core s with pfx := P } := by
  unfold truncPrefix
  rw [h]
  simp [core]

def endsList : Option NodeValue → Bool
  | some (.codeBlock ..) | some (.list _) => true
  | _ => false

theorem enter_list (cx : Ctx) (s : Cm.St) (cs : Forest) (l : NList) :
    enter {} cx (.list l) cs s =
      ((if l.ty == .ordered then { tightened cx s with olStack := l.start :: (tightened cx s).olStack } else tightened cx s), true) := rfl

theorem exit_list (cx : Ctx) (s : Cm.St) (l : NList) (hn : endsList cx.next = false) :
    exit {} cx (.list l) s =
      (if l.ty == .ordered then { s with inTight := isItemV cx.parent && grandTight cx, olStack := s.olStack.drop 1 }
       else { s with inTight := isItemV cx.parent && grandTight cx }) := by
  unfold exit
  simp only []
  split
  · rename_i h; rw [h] at hn; cases hn
  · rename_i h; rw [h] at hn; cases hn
  · split <;> rfl

theorem digitChar_byte : ∀ d : Fin 10, UInt8.ofNat (Nat.digitChar d.val).toNat = UInt8.ofNat (48 + d.val) := by decide

theorem ofNatDecAux_eq : ∀ (fuel n : Nat) (acc : Bytes) (cs : List Char), acc = cs.map (fun c => UInt8.ofNat c.toNat) →
    ofNatDecAux fuel n acc = (Nat.toDigitsCore 10 fuel n cs).map (fun c => UInt8.ofNat c.toNat)
  | 0, _, _, _, h => by simp [ofNatDecAux, Nat.toDigitsCore, h]
  | fuel + 1, n, acc, cs, h => by
    have hd := digitChar_byte ⟨n % 10, Nat.mod_lt _ (by decide)⟩
    simp only at hd
    simp only [ofNatDecAux, Nat.toDigitsCore]
    by_cases hn : n < 10
    · have : n / 10 = 0 := by omega
      simp [hn, this, h, hd]
    · have : ¬ n / 10 = 0 := by omega
      simp only [hn, this, if_false]
      exact ofNatDecAux_eq fuel (n / 10) _ _ (by simp [h, hd])

/-- The writer's decimal spelling is the one `Doc.write` uses. -/
theorem ofNatDec_eq (n : Nat) : ofNatDec n = decBytes n := by
  simp only [ofNatDec, decBytes, Nat.toDigits]
  exact ofNatDecAux_eq _ _ _ _ rfl

theorem ofNatDec_nlFree (n : Nat) : nlFree (ofNatDec n) = true := by
  simp only [nlFree, List.all_eq_true, bne_iff_ne, ne_eq]
  intro c hc
  have := ofNatDec_digits n c hc
  intro e; subst e; revert this; decide

/-- The number on top of the ordered-list stack moves on by `n`. -/
def bump (ord : Bool) (n : Nat) (ol : List Nat) : List Nat :=
  if ord then (match ol with | x :: r => (x + n) :: r | [] => []) else ol

theorem olMarker_eq (k : Nat) (dl : ListDelim) :
    olMarker {} k dl = (ofNatDec k ++ [if dl == .paren then 0x29 else 0x2E]) ++ [0x20] := by
  simp [olMarker, spaces]

theorem itemMarker_nlFree (pl : NList) (n : Nat) : nlFree (itemMarker {} pl n) = true := by
  unfold itemMarker
  split
  · decide
  · rw [olMarker_eq, nlFree_append, nlFree_append, ofNatDec_nlFree]
    split <;> decide

/-- The marker `format_item` writes for item `k` is the one `Doc.write` uses; a bullet does not look at the number. -/
theorem itemMarker_src (m : Marker) (k : Nat) (pl : NList) (hob : m.ordered = true ∨ m.bullet = 0x2D)
    (hty : pl.ty = if m.ordered then .ordered else .bullet)
    (hdl : pl.delim = if m.ordered && m.paren then .paren else .period) (n : Nat) (hn : m.ordered = true → n = k) :
    itemMarker {} pl n = m.src k ++ [0x20] := by
  cases ho : m.ordered
  · rcases hob with hob | hob
    · rw [ho] at hob; cases hob
    · simp [itemMarker, Marker.src, hty, ho, hob]
  · obtain rfl := hn ho
    cases hpn : m.paren <;> simp [itemMarker, olMarker_eq, Marker.src, hty, hdl, ho, hpn, ofNatDec_eq]

theorem core_fmtItem_enter (pl : NList) (own : Nat) (s : Cm.St) (mk : Bytes) (g : Good (core s))
    (hmk : itemMarker {} pl (itemNumber own s) = mk ++ [0x20]) :
    core (fmtItem {} false pl own true s) =
      { aW (mk ++ [0x20]) (core s) with pfx := (core s).pfx ++ spaces (mk.length + 1), ol := bump (pl.ty == .ordered) 1 (core s).ol } := by
  have hadv : core (if pl.ty == .ordered then nextNumber s else s) = { core s with ol := bump (pl.ty == .ordered) 1 (core s).ol } := by
    cases pl.ty
    · rfl
    · cases hr : s.olStack <;> simp [nextNumber, hr, core, bump]
  have g' : Good (core (if pl.ty == .ordered then nextNumber s else s)) := by rw [hadv]; exact ⟨g.ce, g.nc, g.hd⟩
  rw [fmtItem_enter_eq, ← itemMarker_length, hmk]
  show ({ core (wr {} false (mk ++ [0x20]) _) with
    pfx := (core (wr {} false (mk ++ [0x20]) _)).pfx ++ spaces (mk ++ [0x20]).length } : Core) = _
  rw [core_wr _ g' _ (by simp) (hmk ▸ itemMarker_nlFree pl _), hadv, List.length_append]
  rfl

theorem core_fmtItem_exit (pl : NList) (own : Nat) (s : Cm.St) (mk P : Bytes) (hpf : s.prefix_ = P ++ spaces (mk.length + 1))
    (hmk : itemMarker {} pl (exitNumber own s) = mk ++ [0x20]) :
    core (fmtItem {} false pl own false s) = aCr { core s with pfx := P } := by
  have hw : markerWidth {} pl (exitNumber own s) = mk.length + 1 := by rw [← itemMarker_length, hmk, List.length_append]; rfl
  rw [fmtItem_exit_eq, hw, hpf, take_trunc]
  rfl

theorem enter_itemT (t : Task) (l pl : NList) (cx : Ctx) (cs : Forest) (s : Cm.St) (hp : cx.parent = some (.list pl))
    (hce : s.customEscape = false) :
    ∃ own, enter {} cx (t.value l) cs s = (wr {} false t.src (fmtItem {} false pl own true s), true) := by
  obtain ⟨par, gr, hpv, nx⟩ := cx
  obtain ⟨rv, pf, col, nc, lb, bl, bc, nolb, it, ce, ol⟩ := s
  cases hp
  cases hce
  cases t
  · exact ⟨l.start, rfl⟩
  all_goals exact ⟨pl.start, rfl⟩

theorem exit_itemT (t : Task) (l pl : NList) (cx : Ctx) (s : Cm.St) (hp : cx.parent = some (.list pl))
    (hce : s.customEscape = false) : ∃ own, exit {} cx (t.value l) s = fmtItem {} false pl own false s := by
  obtain ⟨par, gr, hpv, nx⟩ := cx
  obtain ⟨rv, pf, col, nc, lb, bl, bc, nolb, it, ce, ol⟩ := s
  cases hp
  cases hce
  cases t
  · exact ⟨l.start, rfl⟩
  all_goals exact ⟨pl.start, rfl⟩

theorem core_wr_mid (s : Cm.St) (g : Good (core s)) (hm : (core s).mid) (bs : Bytes) (hn : nlFree bs = true) :
    core (wr {} false bs s) = { core s with rv := bs.reverse ++ (core s).rv } := by
  cases bs with
  | nil => rfl
  | cons b r =>
    rw [core_wr s g _ (by simp) hn]
    obtain ⟨h1, h2⟩ := hm
    simp [aW, lead_mid _ ⟨h1, h2⟩, h1, h2]

theorem core_enter_itemT (t : Task) (l pl : NList) (cx : Ctx) (cs : Forest) (s : Cm.St) (mk : Bytes) (hp : cx.parent = some (.list pl))
    (g : Good (core s)) (hmk : ∀ own, itemMarker {} pl (itemNumber own s) = mk ++ [0x20]) (hts : nlFree t.src = true) :
    ∃ s1, enter {} cx (t.value l) cs s = (s1, true) ∧
      core s1 = { aW (mk ++ [0x20] ++ t.src) (core s) with pfx := (core s).pfx ++ spaces (mk.length + 1), ol := bump (pl.ty == .ordered) 1 (core s).ol } := by
  obtain ⟨own, hent⟩ := enter_itemT t l pl cx cs s hp g.ce
  have c0 := core_fmtItem_enter pl own s mk g (hmk own)
  have g0 : Good (core (fmtItem {} false pl own true s)) := by
    rw [c0]
    have := good_aW (mk ++ [0x20]) _ g (by simp) (hmk own ▸ itemMarker_nlFree pl _)
    exact ⟨this.ce, this.nc, this.hd⟩
  refine ⟨_, hent, ?_⟩
  rw [core_wr_mid _ g0 (by rw [c0]; exact ⟨rfl, rfl⟩) t.src hts, c0]
  simp [aW]

theorem isItemV_task (t : Task) (l : NList) : isItemV (some (t.value l)) = true := by cases t <;> rfl

theorem take_item (P : Bytes) :
    (P ++ spaces 2).take (if (P ++ spaces 2).length > 2 then (P ++ spaces 2).length - 2 else 0) = P :=
  take_trunc P 2

theorem endsList_blk (b : Blk) (T : Bool) (h : b.cmOk T = true) (hl : b.isList = false) :
    endsList (some b.toTree.value) = false := by
  cases b <;> first | rfl | cases h | cases hl

theorem endsList_next (r : Blks) (T f : Bool) (h : r.cmOk T f = true) (hl : r.headIsList = false) :
    endsList (nextOf r.toForest) = false := by
  cases r with
  | nil => rfl
  | cons b r' =>
    simp only [Blks.cmOk, Bool.and_eq_true] at h
    exact endsList_blk b T h.1.1.2 hl

theorem list_core (a : Core) (T Tm : Bool) (L : List Bytes) :
    ({ blkOut2 { a with tight := T } T Tm L with tight := T } : Core) = blkOut a T L := rfl

theorem bump_bump (ord : Bool) (n : Nat) (ol : List Nat) : bump ord n (bump ord 1 ol) = bump ord (n + 1) ol := by
  cases ord
  · rfl
  · cases ol with
    | nil => rfl
    | cons x r => simp [bump]; omega

theorem bump_head {ord : Bool} {k : Nat} {ol : List Nat} (h : ord = true → ∃ r, ol = k :: r) (ho : ord = true) :
    ∃ r, bump ord 1 ol = (k + 1) :: r := by
  obtain ⟨r, hr⟩ := h ho
  exact ⟨r, by rw [hr, ho]; rfl⟩

theorem done_setOl (a : Core) (o : List Nat) (d : Done a) : Done (setOl a o) := ⟨⟨d.good.ce, d.good.nc, d.good.hd⟩, d.ne⟩

theorem list_step (m : Marker) (items : Items) (cx : Ctx) (s : Cm.St) (T : Bool) (r : BlkReady T cx s)
    (hen : endsList cx.next = false) (hTT : (isItemV cx.parent && grandTight cx) = T)
    (ih : ∀ s1 : Cm.St, Good (core s1) → s1.noLinebreaks = false → (m.ordered = true → ∃ r, s1.olStack = m.start :: r) →
      Left (core (renderF {} (some (.list { m.nlist m.start m.tight with isTaskList := items.anyTask })) cx.parent false
          (items.toForest m m.start) s1))
        (setOl (blkOut2 (core s1) (core s1).tight m.tight (items.lines m m.start)) (bump m.ordered items.length (core s1).ol))
        (items.lines m m.start)) :
    Left (core (renderT {} cx (Blk.list m items).toTree s)) (blkOut (core s) T (Blk.list m items).lines) (Blk.list m items).lines := by
  obtain ⟨g, hnl, ht⟩ := r
  generalize hl : ({ m.nlist m.start m.tight with isTaskList := items.anyTask } : NList) = l at ih
  have hty : (l.ty == .ordered) = m.ordered := by rw [← hl]; cases ho : m.ordered <;> simp [Marker.nlist, ho]
  have hst : m.ordered = true → l.start = m.start := fun ho => by rw [← hl]; simp [Marker.nlist, ho]
  -- an ordered list pushes its start number on entry and pops the stack on exit
  let push (ol : List Nat) : List Nat := if m.ordered then m.start :: ol else ol
  obtain ⟨s1, hen1, cs1, hk1⟩ : ∃ s1, enter {} cx (.list l) (items.toForest m m.start) s = (s1, true) ∧
      core s1 = setOl { core s with tight := T } (push (core s).ol) ∧ (m.ordered = true → ∃ r, s1.olStack = m.start :: r) := by
    rw [enter_list, hty]
    cases ho : m.ordered
    · exact ⟨_, rfl, by simp only [push, ho]; exact ht, fun e => by cases e⟩
    · simp only [↓reduceIte, hst ho]
      refine ⟨_, rfl, ?_, fun _ => ⟨_, rfl⟩⟩
      simp only [push, ho, if_true]
      exact congrArg (fun a => setOl a (m.start :: a.ol)) ht
  obtain ⟨e1, d1, n1⟩ := ih s1 (by rw [cs1]; exact ⟨g.ce, g.nc, g.hd⟩) (by show (core s1).nolb = false; rw [cs1]; exact hnl) hk1
  generalize hs2 : renderF {} _ cx.parent false (items.toForest m m.start) s1 = s2 at e1
  have hpop : (if m.ordered then (bump m.ordered items.length (push (core s).ol)).drop 1
      else bump m.ordered items.length (push (core s).ol)) = (core s).ol := by
    cases ho : m.ordered <;> simp [push, bump, ho]
  have hcore : core (renderT {} cx (Blk.list m items).toTree s) = blkOut (core s) T (items.lines m m.start) := by
    rw [Blk.toTree, hl, renderT_eq, hen1]
    simp only [if_true]
    rw [hs2, exit_list _ _ _ hen, hty, hTT]
    refine Eq.trans (b := ({ core s2 with tight := T, ol := if m.ordered then (core s2).ol.drop 1 else (core s2).ol } : Core)) ?_ ?_
    · cases m.ordered <;> rfl
    · rw [e1, cs1]
      simp only [setOl, blkOut2, blkOut, hpop]
      rfl
  refine ⟨hcore, ?_, n1⟩
  rw [cs1] at d1
  exact ⟨⟨d1.good.ce, d1.good.nc, d1.good.hd⟩, d1.ne⟩

/-- Two blocks in a row: a blank line between them unless the first left the writer tight. -/
theorem Left.seq {a a1 a2 : Core} {T0 Tm ord : Bool} {n : Nat} {L1 L2 : List Bytes}
    (h1 : Left a1 (setOl (blkOut2 a T0 Tm L1) (bump ord 1 a.ol)) L1)
    (h2 : Left a2 (setOl (blkOut2 a1 Tm Tm L2) (bump ord n a1.ol)) L2) :
    Left a2 (setOl (blkOut2 a T0 Tm (L1 ++ (if Tm then [] else [[]]) ++ L2)) (bump ord (n + 1) a.ol))
      (L1 ++ (if Tm then [] else [[]]) ++ L2) := by
  obtain ⟨rfl, d1, n1⟩ := h1
  obtain ⟨e2, d2, n2⟩ := h2
  have hseq : setOl (blkOut2 (setOl (blkOut2 a T0 Tm L1) (bump ord 1 a.ol)) Tm Tm L2) (bump ord n (bump ord 1 a.ol)) =
      setOl (blkOut2 a T0 Tm (L1 ++ (if Tm then [] else [[]]) ++ L2)) (bump ord (n + 1) a.ol) := by
    rw [bump_bump, ← blkOut2_seq _ _ _ _ _ _ n1 n2 d1.ne]
    rfl
  exact ⟨e2.trans hseq, hseq ▸ d2, by simp [n1]⟩

theorem quote_step (b : Blk) (T : Bool) (cx : Ctx) (s : Cm.St) (r : BlkReady T cx s) (hall : allNonempty b.lines = true)
    (ih : ∀ s1 : Cm.St, Good (core s1) → s1.noLinebreaks = false → s1.inTight = T →
      Left (core (renderT {} ⟨some .blockQuote, cx.parent, false, none⟩ b.toTree s1)) (blkOut (core s1) T b.lines) b.lines) :
    Left (core (renderT {} cx (Blk.quote (.cons b .nil)).toTree s)) (blkOut (core s) T (Blk.quote (.cons b .nil)).lines)
      (Blk.quote (.cons b .nil)).lines := by
  have gt := r.goodT
  obtain ⟨g, hnl, ht⟩ := r
  have cs1 : core (quoteOpen (wr {} false [0x3E, 0x20] (tightened cx s))) =
      { aW [0x3E, 0x20] { core s with tight := T } with pfx := (core s).pfx ++ [0x3E, 0x20] } := by
    rw [core_quoteOpen, core_wr _ gt [0x3E, 0x20] (by simp) (by decide), ht]; rfl
  have hl : (Blk.quote (.cons b .nil)).lines = b.lines.map quoteLine := by
    simp [Blk.lines, Blks.lines, Blks.isNil]
  refine container_step (a := { core s with tight := T }) (o := (core s).ol) (L := b.lines) aBlank (fun _ h => (need_two h).1)
    (good_tight _ _ g) hnl (by simp) (by decide) (by rw [enter_quote, escOn_false _ _ g.ce]) cs1 (fun g1 hn1 => ?_) (fun s2 e2 => ?_)
    (fun _ => hl.trans (map_quoteLine _ hall))
  · show Left (core (renderF {} (some .blockQuote) cx.parent false (.cons b.toTree .nil) _)) _ _
    rw [renderF_cons]
    simp only [renderF, nextOf]
    exact ih _ g1 hn1 (by rw [← core_tight, cs1]; rfl)
  · have := core_trunc s2 (core s).pfx [0x3E, 0x20] (by show (core s2).pfx = _; rw [e2, cs1]; rfl)
    rw [exit_quote, core_blank]
    exact congrArg aBlank this

theorem item_step (t : Task) (bs : Blks) (m : Marker) (k : Nat) (pl : NList) (cx : Ctx) (s : Cm.St)
    (hp : cx.parent = some (.list pl)) (hts : nlFree t.src = true) (hall : allNonempty (bs.lines m.tight) = true)
    (hmk : ∀ n, (m.ordered = true → n = k) → itemMarker {} pl n = m.src k ++ [0x20]) (hord : (pl.ty == .ordered) = m.ordered)
    (g : Good (core s)) (hnl : s.noLinebreaks = false) (hk : m.ordered = true → ∃ r, s.olStack = k :: r)
    (ih : ∀ s1 : Cm.St, Good (core s1) → s1.noLinebreaks = false →
      Left (core (renderF {} (some (t.value (m.nlist k false))) cx.parent false bs.toForest s1))
        (blkOut (core s1) m.tight (bs.lines m.tight)) (bs.lines m.tight)) :
    Left (core (renderT {} cx (.node (t.value (m.nlist k false)) {} bs.toForest) s))
      (setOl (blkOut2 (core s) (core s).tight m.tight (itemLines (m.src k) (t.mark (bs.lines m.tight)))) (bump m.ordered 1 (core s).ol))
      (itemLines (m.src k) (t.mark (bs.lines m.tight))) := by
  -- the number on top of the stack is `k` on entry and `k + 1` on exit, where `format_item` takes one off again
  obtain ⟨s1, hen, hent⟩ := core_enter_itemT t (m.nlist k false) pl cx bs.toForest s (m.src k) hp g
    (fun own => hmk _ fun ho => by obtain ⟨r, hr⟩ := hk ho; simp [itemNumber, hr]) hts
  rw [hord] at hent
  refine container_step aCr (fun _ h => (need_two h).2) g hnl (by simp)
    (by rw [nlFree_append, hts, ← hmk k fun _ => rfl, itemMarker_nlFree]; rfl) hen hent (ih s1) (fun s2 e2 => ?_)
    (fun n => itemLines_mark _ _ _ n hall)
  have hpf : s2.prefix_ = (core s).pfx ++ spaces ((m.src k).length + 1) := by
    show (core s2).pfx = _
    rw [e2, hent]; rfl
  have hol2 : m.ordered = true → ∃ r, s2.olStack = (k + 1) :: r := fun ho => by
    show ∃ r, (core s2).ol = _
    rw [e2, hent]
    exact bump_head hk ho
  obtain ⟨own, hex⟩ := exit_itemT t (m.nlist k false) pl cx s2 hp (by show (core s2).ce = false; rw [e2, hent]; exact g.ce)
  rw [hex, core_fmtItem_exit pl own s2 (m.src k) (core s).pfx hpf
    (hmk _ fun ho => by obtain ⟨r, hr⟩ := hol2 ho; simp [exitNumber, hr])]

mutual
theorem blk_sim : ∀ (b : Blk) (T : Bool), b.cmOk T = true → ∀ (cx : Ctx) (s : Cm.St), Good (core s) → s.noLinebreaks = false →
    (isItemV cx.parent = true → grandTight cx = T) → (isItemV cx.parent = false → s.inTight = T) →
    (b.isHr = true → (core s).need = 2 ∨ ((core s).rv = [] ∧ (core s).bol = true)) →
    (b.isList = true → endsList cx.next = false ∧ (isItemV cx.parent = false → T = false)) →
    core (renderT {} cx b.toTree s) = blkOut (core s) T b.lines ∧ Done (blkOut (core s) T b.lines) ∧ b.lines ≠ []
  | .para is, T, h, cx, s, g, hnl, h1, h2, _, _ => para_sim is T h cx s ⟨g, hnl, core_tightened cx s T h1 h2⟩
  | .heading lv is, T, h, cx, s, g, hnl, h1, h2, _, _ => heading_sim lv is T h cx s ⟨g, hnl, core_tightened cx s T h1 h2⟩
  | .hr c n, T, h, cx, s, g, hnl, h1, h2, hp, _ => hr_sim c n T h cx s ⟨g, hnl, core_tightened cx s T h1 h2⟩ (hp rfl)
  | .quote (.cons b .nil), T, h, cx, s, g, hnl, h1, h2, _, _ => by
    simp only [Blk.cmOk, Blks.length, Blks.headIsList, Blks.cmOk, Blks.lines, Blks.isNil, Bool.and_eq_true, Bool.not_eq_true',
      Bool.true_and, Bool.or_true, if_true, List.append_nil, Bool.and_true, Bool.and_false, Bool.not_false] at h
    obtain ⟨⟨⟨_, hTl⟩, hhr, hb⟩, hall⟩ := h
    exact quote_step b T cx s ⟨g, hnl, core_tightened cx s T h1 h2⟩ hall fun s1 g1 hn1 ht1 =>
      blk_sim b T hb ⟨some .blockQuote, cx.parent, false, none⟩ s1 g1 hn1 (fun e => by cases e) (fun _ => ht1)
        (fun e => by rw [hhr] at e; cases e)
        (fun e => ⟨rfl, fun _ => by rw [e] at hTl; simpa using hTl⟩)
  | .quote .nil, _, h, _, _, _, _, _, _, _, _ | .quote (.cons _ (.cons ..)), _, h, _, _, _, _, _, _, _, _ => by
    simp [Blk.cmOk, Blks.length] at h
  | .list m items, T, h, cx, s, g, hnl, h1, h2, _, hl => by
    simp only [Blk.cmOk, Bool.and_eq_true, Bool.not_eq_true', Bool.or_eq_true, beq_iff_eq] at h
    obtain ⟨⟨hob, hnil⟩, hok⟩ := h
    obtain ⟨hen, hT⟩ := hl rfl
    have hTT : (isItemV cx.parent && grandTight cx) = T := by
      cases hi : isItemV cx.parent
      · exact (hT hi).symm
      · exact h1 hi
    exact list_step m items cx s T ⟨g, hnl, core_tightened cx s T h1 h2⟩ hen hTT (fun s1 g1 hn1 hk1 =>
      items_sim items m m.start hok hnil hob { m.nlist m.start m.tight with isTaskList := items.anyTask } cx.parent false s1
        rfl rfl rfl g1 hn1 hk1)
  | .setext .., _, h, _, _, _, _, _, _, _, _ | .fence .., _, h, _, _, _, _, _, _, _, _ | .icode .., _, h, _, _, _, _, _, _, _, _
  | .table .., _, h, _, _, _, _, _, _, _, _ | .htmlb .., _, h, _, _, _, _, _, _, _, _ => by simp [Blk.cmOk] at h
theorem blks_sim : ∀ (bs : Blks) (T first : Bool), bs.cmOk T first = true → bs.isNil = false →
    ∀ (pv : NodeValue) (gr : Option NodeValue) (hp : Bool) (s : Cm.St), Good (core s) → s.noLinebreaks = false →
    (isItemV (some pv) = true → grandTight ⟨some pv, gr, false, none⟩ = T) → (isItemV (some pv) = false → s.inTight = T) →
    (isItemV (some pv) = false → T = false) →
    (first = false → (core s).need = 2 ∨ ((core s).rv = [] ∧ (core s).bol = true)) →
    Left (core (renderF {} (some pv) gr hp bs.toForest s)) (blkOut (core s) T (bs.lines T)) (bs.lines T)
  | .nil, _, _, _, h0, _, _, _, _, _, _, _, _, _, _ => by simp [Blks.isNil] at h0
  | .cons b r, T, first, h, _, pv, gr, hp, s, g, hnl, h1, h2, h3, h4 => by
    simp only [Blks.cmOk, Bool.and_eq_true, Bool.not_eq_true', Bool.and_eq_false_iff] at h
    obtain ⟨⟨⟨hf, hb⟩, hll⟩, hr⟩ := h
    obtain ⟨e1, d1, n1⟩ := blk_sim b T hb ⟨some pv, gr, hp, nextOf r.toForest⟩ s g hnl h1 h2
      (fun hhr => h4 (by rcases hf with hf | hf; exact hf; rw [hhr] at hf; cases hf))
      (fun hli => ⟨endsList_next r T false hr (by rcases hll with hll | hll; rw [hli] at hll; cases hll; exact hll), h3⟩)
    simp only [Blks.toForest]
    rw [renderF_cons]
    cases r with
    | nil =>
      simp only [Blks.toForest, renderF, Blks.lines, Blks.isNil, Bool.or_true, if_true, List.append_nil]
      exact ⟨e1, d1, n1⟩
    | cons b2 r2 =>
      generalize hs1 : renderT {} ⟨some pv, gr, hp, nextOf (Blks.cons b2 r2).toForest⟩ b.toTree s = s1 at e1
      have g1 : Good (core s1) := by rw [e1]; exact d1.good
      have ih := blks_sim (.cons b2 r2) T false hr rfl pv gr true s1 g1
        (by show (core s1).nolb = false; rw [e1]; exact hnl) h1
        (fun _ => by show (core s1).tight = T; rw [e1]; rfl) h3 (fun _ => Or.inl (by rw [e1]; rfl))
      have hl : (Blks.cons b (.cons b2 r2)).lines T = b.lines ++ (if T = true then [] else [[]]) ++ (Blks.cons b2 r2).lines T := by
        simp [Blks.lines, Blks.isNil]
      rw [hl]
      exact Left.seq (ord := false) (n := 0) (a := core s) (T0 := T) ⟨e1, d1, n1⟩ ih
theorem items_sim : ∀ (items : Items) (m : Marker) (k : Nat), items.cmOk m = true → items.isNil = false →
    (m.ordered = true ∨ m.bullet = 0x2D) →
    ∀ (pl : NList) (gr : Option NodeValue) (hp : Bool) (s : Cm.St),
    pl.ty = (if m.ordered then .ordered else .bullet) → pl.delim = (if m.ordered && m.paren then .paren else .period) →
    pl.tight = m.tight → Good (core s) → s.noLinebreaks = false → (m.ordered = true → ∃ r, s.olStack = k :: r) →
    core (renderF {} (some (.list pl)) gr hp (items.toForest m k) s) =
        setOl (blkOut2 (core s) (core s).tight m.tight (items.lines m k)) (bump m.ordered items.length (core s).ol) ∧
      Done (setOl (blkOut2 (core s) (core s).tight m.tight (items.lines m k)) (bump m.ordered items.length (core s).ol)) ∧
      items.lines m k ≠ []
  | .nil, _, _, _, h0, _, _, _, _, _, _, _, _, _, _, _ => by simp [Items.isNil] at h0
  | .cons t bs r, m, k, h, _, hob, pl, gr, hp, s, hty, hdl, htg, g, hnl, hk => by
    simp only [Items.cmOk, Bool.and_eq_true, Bool.not_eq_true'] at h
    obtain ⟨⟨⟨⟨ht, hnil⟩, hbs⟩, hall⟩, hr⟩ := h
    have hord : (pl.ty == .ordered) = m.ordered := by rw [hty]; cases m.ordered <;> rfl
    obtain ⟨hitem, ditem, nitem⟩ := item_step t bs m k pl ⟨some (.list pl), gr, hp, nextOf (r.toForest m (k + 1))⟩ s rfl ht hall
      (itemMarker_src m k pl hob hty hdl) hord g hnl hk fun s1 g1 hn1 =>
        blks_sim bs m.tight true hbs hnil (t.value (m.nlist k false)) (some (.list pl)) false s1 g1 hn1 (fun _ => htg)
          (fun e => by rw [isItemV_task] at e; cases e) (fun e => by rw [isItemV_task] at e; cases e) (fun e => by cases e)
    simp only [Items.toForest]
    rw [renderF_cons]
    cases r with
    | nil =>
      simp only [Items.toForest, renderF, Items.lines, Items.isNil, Bool.or_true, if_true, List.append_nil, Items.length]
      exact ⟨hitem, ditem, nitem⟩
    | cons t2 b2 r2 =>
      generalize hs3 : renderT {} ⟨some (.list pl), gr, hp, nextOf ((Items.cons t2 b2 r2).toForest m (k + 1))⟩
        (.node (t.value (m.nlist k false)) {} bs.toForest) s = s3 at hitem
      have hk3 : m.ordered = true → ∃ r, s3.olStack = (k + 1) :: r := by
        show _ → ∃ r, (core s3).ol = _
        rw [hitem]
        exact bump_head hk
      have ih := items_sim (.cons t2 b2 r2) m (k + 1) hr rfl hob pl gr true s3 hty hdl htg (by rw [hitem]; exact ditem.good)
        (by show (core s3).nolb = false; rw [hitem]; exact hnl) hk3
      rw [show (core s3).tight = m.tight by rw [hitem]; rfl] at ih
      have hl : (Items.cons t bs (.cons t2 b2 r2)).lines m k =
          itemLines (m.src k) (t.mark (bs.lines m.tight)) ++ (if m.tight = true then [] else [[]]) ++ (Items.cons t2 b2 r2).lines m (k + 1) := by
        simp [Items.lines, Items.isNil]
      rw [hl]
      exact Left.seq ⟨hitem, ditem, nitem⟩ ih
end

/-- Documents of the class: blocks as in `Blk.cmOk`, no reference definitions, no footnotes. -/
def _root_.Comrak.Canon.Doc.cmOk (d : Doc) : Bool :=
  d.blocks.cmOk false false && d.blocks.defs.isEmpty && d.shadow.isEmpty && d.notes.isEmpty && d.unused.isEmpty

theorem toForestThen_nil : ∀ bs : Blks, bs.toForestThen .nil = bs.toForest
  | .nil => rfl
  | .cons b r => by simp [Blks.toForestThen, Blks.toForest, toForestThen_nil r]

theorem write_plain (d : Doc) (h : d.cmOk = true) : d.write = Canon.joinLines (d.blocks.lines false) := by
  simp only [Doc.cmOk, Bool.and_eq_true, List.isEmpty_iff] at h
  obtain ⟨⟨⟨⟨_, hd⟩, hs⟩, hn⟩, hu⟩ := h
  have hw : d.writtenNotes = [] := by simp [Doc.writtenNotes, hn, hu]
  have hds : d.useDefs = [] := by simp [Doc.useDefs, hd, hw]
  simp only [Doc.write, hds, hw, hs, List.filter_nil, List.map_nil, List.append_nil]
  cases hL : (d.blocks.lines false).isEmpty <;> simp_all [joinGroups]

theorem cm_fixed (d : Doc) (h : d.cmOk = true) : renderCm {} d.toTree = d.write := by
  rw [write_plain d h]
  simp only [Doc.cmOk, Bool.and_eq_true, List.isEmpty_iff] at h
  obtain ⟨⟨⟨⟨hb, _⟩, _⟩, hn⟩, _⟩ := h
  have htree : renderT {} {} d.toTree {} = renderF {} (some .document) none false d.blocks.toForest {} := by
    simp only [Doc.toTree, hn, notesForest, toForestThen_nil]
    rw [renderT_eq, enter_doc]
    simp only [if_true]
    rw [exit_doc]
    rfl
  cases hbs : d.blocks with
  | nil =>
    simp only [renderCm, htree, hbs, Blks.toForest, renderF, Blks.lines, Canon.joinLines]
    rfl
  | cons b r =>
    rw [hbs] at hb htree
    have := blks_sim (.cons b r) false false hb rfl .document none false {} ⟨rfl, by decide, by decide⟩ rfl (fun e => by cases e) (fun _ => rfl)
      (fun _ => rfl) (fun _ => Or.inr ⟨rfl, rfl⟩)
    obtain ⟨e1, d1, n1⟩ := this
    rw [← htree] at e1
    have hrv : (renderT {} {} d.toTree {}).rv = (Tx [] ((Blks.cons b r).lines false)).reverse := by
      show (core (renderT {} {} d.toTree {})).rv = _
      rw [e1]
      simp [blkOut, core, Core.lead, Core.n]
    have d1' : Done (core (renderT {} {} d.toTree {})) := e1 ▸ d1
    rw [joinLines_Tx _ n1, renderCm_open_line {} _ d1'.ne d1'.good.hd, hrv, List.reverse_reverse]

end Comrak.CmCanon
