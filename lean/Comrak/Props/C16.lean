/-
C16  The command-line tool renders exactly what the library renders.

`cliToOptions` models the builder calls of src/main.rs; `documented` is written from the help text only.
The correspondence harness (harness/src/c16.rs) ties `parseArgs`/`cliWithConfig`/`cliToOptions`/`chosen*`
to the real binary built from the working tree on every run.
-/
import Comrak.Lemmas.Cli
namespace Comrak.C16
open Comrak Bytes Comrak.Cli

/-- **The wiring is the documentation**, for every value of the `Cli` record (2^17 flag settings x every
    extension list x every value of the valued options). -/
theorem cli_matches_documentation : ∀ c : Cli, cliToOptions c = documented c := by
  intro c
  unfold documented expandGfm
  by_cases hg : c.gfm = true
  · simp [hg, cliToOptions, documentedFlags, foldl_enableExt, gfmExtensions, enableExt]
  · simp [hg, cliToOptions, documentedFlags, foldl_enableExt]

/-- `--gfm` turns on exactly strikethrough, tagfilter, table, autolink, tasklist, github_pre_lang and
    gfm_quirks ... -/
theorem gfm_bundle (c : Cli) (h : c.gfm = true) :
    let o := cliToOptions c
    o.extension.strikethrough = true ∧ o.extension.tagfilter = true ∧ o.extension.table = true ∧
    o.extension.autolink = true ∧ o.extension.tasklist = true ∧
    o.render.githubPreLang = true ∧ o.render.gfmQuirks = true := by
  simp [cliToOptions, h]

/-- Without `--gfm` the options are those of the individual flags. -/
theorem flags_one_to_one (c : Cli) (h : c.gfm = false) : cliToOptions c = documentedFlags c := by
  rw [cli_matches_documentation]; simp [documented, expandGfm, h]

/-- ... and nothing else: with `--gfm` the options are those of the same command line with the bundle
    spelled out instead. -/
theorem gfm_is_shorthand (c : Cli) (h : c.gfm = true) :
    cliToOptions c =
      cliToOptions { c with gfm := false, extensions := c.extensions ++ gfmExtensions,
                            githubPreLang := true, gfmQuirks := true } := by
  rw [cli_matches_documentation, flags_one_to_one _ rfl]
  simp only [documented, expandGfm, h, if_true]
  rfl

/-- An extension is on exactly when it was named (`-e`) or belongs to the `--gfm` bundle and `--gfm` was
    given - for each of the 18 extension names. -/
theorem extension_on_iff (c : Cli) (e : Ext) :
    getExt (cliToOptions c).extension e =
      (c.extensions.contains e || (c.gfm && gfmExtensions.contains e)) := by
  cases e
  -- a member of the bundle: `.. || c.gfm` on the left, `.. || (c.gfm && true)` on the right
  case strikethrough | tagfilter | table | autolink | tasklist =>
    exact congrArg (c.extensions.contains _ || ·) (Bool.and_true c.gfm).symm
  -- any other name: `..` on the left, `.. || (c.gfm && false)` on the right
  all_goals
    exact (Bool.or_false _).symm.trans (congrArg (c.extensions.contains _ || ·) (Bool.and_false c.gfm).symm)

/-- The three library options without a flag stay at the library default, whatever the command line. -/
theorem unflagged_options_default (c : Cli) :
    (cliToOptions c).render.preferFenced = false ∧ (cliToOptions c).render.figureWithCaption = false ∧
    (cliToOptions c).render.olWidth = 0 := by
  simp [cliToOptions]

/-- No flags at all = `Options::default()`. -/
theorem defaults (p : Bytes) : cliToOptions (Cli.default p) = {} := by
  simp [cliToOptions, Cli.default]

/-- The config-file words come *after* the real arguments, and no argument is lost, whatever its
    encoding (arguments are byte strings here: `OsString`s). Full strength since /repo commit f3c2040. -/
theorem mergeConfig_eq_append (env cfg : List Bytes) :
    mergeConfig env cfg = env ++ cfg ∧ (mergeConfig env cfg).length = env.length + cfg.length := by
  simp [mergeConfig]

/-- An empty config file changes nothing. -/
theorem mergeConfig_nil (env : List Bytes) : mergeConfig env [] = env := by
  simp [mergeConfig]

/-- The pinned splice (by index, skipping non-Unicode arguments) agreed with this on Unicode arguments. -/
theorem mergeConfigOld_eq_append_partial (env cfg : List Bytes) :
    mergeConfigOld (env.map some) cfg = some (mergeConfig env cfg) := by
  have := mergeLoop_all_some env [] cfg
  simpa [mergeConfigOld, mergeConfig] using this

/-- The pinned splice was only right when every argument is valid Unicode: a non-Unicode file argument
    was silently dropped when a config file was read (`comrak --smart <non-unicode>` + empty config
    file: standard input was rendered instead of the file) ... -/
theorem mergeConfigOld_non_unicode_counterexample :
    mergeConfigOld [some [0x63], some [0x2D, 0x2D, 0x73], none] [] = some [[0x63], [0x2D, 0x2D, 0x73]] := by
  decide

/-- ... and when another argument followed it, `Vec::insert` was called past the end: the process
    panicked (`comrak <non-unicode> a` + empty config file). Repaired in /repo commit f3c2040. -/
theorem mergeConfigOld_panic_counterexample :
    mergeConfigOld [some [0x63], none, some [0x61]] [] = none := by decide

/-- Formatter and highlighter: `--inplace` forces CommonMark; syntect is used exactly for HTML output
    (not in place) with a theme other than `""` / `none`. -/
theorem formatter_choice (c : Cli) :
    chosenFormat c = (if c.inplace then Format.commonmark else c.format) ∧
    ((chosenHighlighter c).isSome ↔
       (chosenFormat c = .html ∧ c.syntaxHighlighting ≠ [] ∧ c.syntaxHighlighting ≠ N.none)) ∧
    (∀ t, chosenHighlighter c = some t → t = c.syntaxHighlighting) := by
  refine ⟨rfl, ?_, fun t h => ((chosenHighlighter_eq_some c t).mp h).2.symm⟩
  rw [Option.isSome_iff_exists]
  exact ⟨fun ⟨t, h⟩ => ((chosenHighlighter_eq_some c t).mp h).1,
    fun h => ⟨_, (chosenHighlighter_eq_some c _).mpr ⟨h, rfl⟩⟩⟩

/-- Sink: `--output` wins; `--inplace` (accepted only with exactly one file) rewrites that file;
    otherwise stdout. -/
theorem sink_choice (c : Cli) :
    (∀ p, c.output = some p → chosenSink c = .file p) ∧
    (c.output = none → c.inplace = false → chosenSink c = .stdout) ∧
    (∀ f, c.output = none → c.inplace = true → c.files = some [f] → chosenSink c = .file f) ∧
    (c.inplace = true → (checkInplace c = none ↔ ∃ f, c.files = some [f])) := by
  refine ⟨?_, ?_, ?_, ?_⟩
  · intro p h; simp [chosenSink, h]
  · intro h1 h2; simp [chosenSink, h1, h2]
  · intro f h1 h2 h3; simp [chosenSink, h1, h2, h3]
  · intro h
    unfold checkInplace
    rw [if_pos h]
    split <;> simp_all

/-- All inputs readable: the buffer handed to the parser is the concatenation of the files in
    command-line order (stdin when there is no file argument). -/
theorem inputs_concatenated (w : World) (content : Bytes → Bytes) (fs : List Bytes)
    (h : ∀ f ∈ fs, w.file f = some (content f)) :
    readInputs w (some fs) = .ok (fs.map content).flatten ∧ readInputs w none = .ok w.stdin := by
  constructor
  · simpa [readInputs] using readFiles_ok w fs [] content h
  · rfl

/-- The first file that cannot be opened aborts the run with exit 3, whatever follows it. -/
theorem unreadable_file_exit3 (L : Lib) (w : World) (c : Cli) (pre post : List Bytes) (f : Bytes)
    (hin : checkInplace c = none) (hfiles : c.files = some (pre ++ f :: post))
    (hpre : ∀ g ∈ pre, (w.file g).isSome) (hf : w.file f = none) :
    execute L w c = .fail 3 := by
  simp [execute, hin, hfiles, readInputs, readFiles_unreadable w pre f post [] hpre hf]

/-- **The property at model level.** A run whose inputs are readable and valid UTF-8 exits 0 silently
    and delivers, to the chosen sink only, exactly what the library renders for the concatenated input
    under the *documented* options. -/
theorem cli_renders_library (L : Lib) (w : World) (c : Cli) (s : Bytes)
    (hin : checkInplace c = none) (hread : readInputs w c.files = .ok s) (hutf : L.validUtf8 s = true) :
    let out := L.render (documented c) (chosenFormat c) (chosenHighlighter c) s
    execute L w c =
      match chosenSink c with
      | .stdout => { exit := 0, stdout := out, written := none, message := false }
      | .file p => { exit := 0, stdout := [], written := some (p, out), message := false } := by
  cases hs : chosenSink c <;> simp [execute, hin, hread, hutf, hs, cli_matches_documentation]

/-- Invalid UTF-8 input: exit 1. -/
theorem invalid_utf8_exit1 (L : Lib) (w : World) (c : Cli) (s : Bytes)
    (hin : checkInplace c = none) (hread : readInputs w c.files = .ok s) (hutf : L.validUtf8 s = false) :
    execute L w c = .fail 1 := by
  simp [execute, hin, hread, hutf]

/-- Every failing run (whatever the reason) has a message, an empty stdout and writes no file:
    never partial output. -/
theorem failure_leaves_no_output (L : Lib) (w : World) (c : Cli) (h : (execute L w c).exit ≠ 0) :
    (execute L w c).stdout = [] ∧ (execute L w c).written = none ∧ (execute L w c).message = true := by
  rcases execute_fail_or_ok L w c with ⟨code, _, e⟩ | e
  · rw [e]; exact ⟨rfl, rfl, rfl⟩
  · exact absurd e h

/-- The only exit codes of a completed run are 0, 1 (invalid UTF-8), 3 (unreadable file), 4 (`--inplace`
    without exactly one file); with argument errors (2) these are all exits of `mainModel`. -/
theorem exit_codes (L : Lib) (w : World) (c : Cli) : (execute L w c).exit ∈ [0, 1, 3, 4] := by
  rcases execute_fail_or_ok L w c with ⟨code, hm, e⟩ | e
  · rw [e]; simp only [List.mem_cons, List.not_mem_nil, or_false] at hm ⊢
    exact .inr hm
  · rw [e]; simp

/-- `--config-file none` (or a config file that cannot be read): the command line alone decides. -/
theorem config_none (p : Bytes) (cfgFs : ConfigFs) (argv : List Bytes) (c : Cli)
    (h : parseArgs p argv = .ok c) (hn : c.configFile = N.none ∨ cfgFs c.configFile = none) :
    cliWithConfig p cfgFs argv = .ok c := by
  unfold cliWithConfig
  rcases hn with hn | hn
  · simp [h, hn]
  · by_cases h1 : c.configFile = N.none <;> simp [h, hn, h1]

/-- A readable config file: its words are parsed as if typed after the real arguments. -/
theorem config_appended (p : Bytes) (cfgFs : ConfigFs) (argv words : List Bytes) (c : Cli)
    (h : parseArgs p argv = .ok c) (hn : c.configFile ≠ N.none) (hw : cfgFs c.configFile = some (some words)) :
    cliWithConfig p cfgFs argv = parseArgs p (argv ++ words) := by
  simp [cliWithConfig, h, hn, hw, mergeConfig]

/-- `comrak --gfm -e footnotes,alerts --width 72 -t xml a.md` -/
example :
    parseArgs N.none
      [[0x63], [0x2D, 0x2D] ++ N.gfm, [0x2D, 0x65], N.footnotes ++ [0x2C] ++ N.alerts,
       [0x2D, 0x2D] ++ N.width, [0x37, 0x32], [0x2D, 0x74], N.xml, [0x61, 0x2E, 0x6D, 0x64]] =
    .ok { configFile := N.none, gfm := true, extensions := [.footnotes, .alerts], width := 72,
          format := .xml, files := some [[0x61, 0x2E, 0x6D, 0x64]] } := by decide +kernel

/-- ... and the options it yields: the bundle plus the two named extensions, nothing else. -/
example :
    (cliToOptions { configFile := N.none, gfm := true, extensions := [.footnotes, .alerts], width := 72 }) =
    { extension := { strikethrough := true, tagfilter := true, table := true, autolink := true,
                     tasklist := true, footnotes := true, alerts := true },
      render := { githubPreLang := true, gfmQuirks := true, width := 72 } } := by decide

/-- `--smart --smart` is rejected (exit 2), as is `--inplace -o x f`. -/
example : parseArgs N.none [[0x63], [0x2D, 0x2D] ++ N.smart, [0x2D, 0x2D] ++ N.smart] = .error .usage := by
  decide
example : parseArgs N.none [[0x63], [0x2D, 0x69], [0x2D, 0x6F], [0x78], [0x66]] = .error .usage := by decide

/-- A flag on the command line and again in the config file: rejected (outside the property's
    quantifier, which ranges over *subsets* split between the two). -/
example :
    cliWithConfig N.none (fun _ => some (some [[0x2D, 0x2D] ++ N.smart]))
      [[0x63], [0x2D, 0x63], [0x66], [0x2D, 0x2D] ++ N.smart] = .error .usage := by decide

/-- `--inplace` of one file: CommonMark, no highlighter, written to that file. -/
example :
    let c : Cli := { configFile := N.none, inplace := true, files := some [[0x66]] }
    checkInplace c = none ∧ chosenFormat c = .commonmark ∧ chosenHighlighter c = none ∧
    chosenSink c = .file [0x66] := by decide

/-- Default run: HTML with the default theme to stdout; `--syntax-highlighting none` switches it off. -/
example :
    chosenHighlighter (Cli.default N.none) = some N.base16_ocean_dark ∧
    chosenHighlighter { Cli.default N.none with syntaxHighlighting := N.none } = none ∧
    chosenHighlighter { Cli.default N.none with format := .xml } = none := by decide

/-- Two files are concatenated in order. -/
example :
    readInputs { file := fun p => if p = [1] then some [0x61] else if p = [2] then some [0x62] else none,
                 stdin := [] } (some [[1], [2], [1]]) = .ok [0x61, 0x62, 0x61] := by decide

/-- A run over a toy library (render = tag byte ++ input): success and the three failures. -/
example :
    let L : Lib := { validUtf8 := fun s => !s.contains 0xFF, render := fun _ _ _ s => 0x3E :: s }
    let w : World := { file := fun p => if p = [1] then some [0x61] else if p = [2] then some [0xFF] else none,
                       stdin := [0x7A] }
    execute L w { configFile := N.none } = { exit := 0, stdout := [0x3E, 0x7A], written := none, message := false } ∧
    execute L w { configFile := N.none, files := some [[1]], output := some [9] } =
      { exit := 0, stdout := [], written := some ([9], [0x3E, 0x61]), message := false } ∧
    execute L w { configFile := N.none, files := some [[1], [2]] } = .fail 1 ∧
    execute L w { configFile := N.none, files := some [[1], [3]] } = .fail 3 ∧
    execute L w { configFile := N.none, inplace := true } = .fail 4 := by decide

end Comrak.C16
