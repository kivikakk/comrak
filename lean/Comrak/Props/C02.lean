/-
C02  Safe-by-default HTML: only comrak's own markup, no dangerous URLs.
Token-level statements about the complete model of html.rs (Comrak/Html.lean) for every
option vector with `unsafe_ = false`, every tree whose nodes are `nodeSafe` (no `Raw` node -
the parser never builds one -, `EscapedTag` payload harmless, heading level 1-6: checked on
every parsed tree in the correspondence stage), any normalisation table with attribute-safe
values and an attribute-safe `header_ids` prefix (the prefix is application configuration and
is written raw by the code); `html_safe_bytes` carries them to the bytes, against the run-time
oracle `safeBytes`.
-/
import Comrak.Lemmas.HtmlSafeTree
import Comrak.Lemmas.UrlSafe
import Comrak.Props.C19
import Comrak.Lemmas.HtmlLexSafe
namespace Comrak.C02
open Comrak Bytes

/-- **Every token written in safe mode is comrak's own markup** (`allowedTok`: element and
    attribute names from the fixed vocabulary, attribute values made of escaped text / escaped
    URLs / harmless literals, document text only as escaped text, no raw pass-through, only the
    placeholder comment) - for all trees of any depth and width. -/
theorem html_safe (o : HtmlOpts) (hu : o.unsafe_ = false)
    (hp : ∀ p, o.headerIds = some p → litSafe p = true)
    (nt : NormTable) (hn : NormSafe nt) (t : Tree) (ht : treeSafe t = true) :
    (renderToks o nt t).all allowedTok = true :=
  renderToks_allowed o hu hp nt hn t ht

/-- Raw HTML from the input appears only as the omission placeholder ... -/
theorem raw_html_only_placeholder (o : HtmlOpts) (hu : o.unsafe_ = false) (he : o.escape = false) (l : Bytes) :
    htmlBlockToks o l = [.cmt] ∧ htmlInlineToks o l = [.cmt] := by
  simp [htmlBlockToks, htmlInlineToks, hu, he]

/-- ... or as escaped text when the escape option is on (whatever `unsafe_` says). -/
theorem raw_html_escaped_when_escape (o : HtmlOpts) (he : o.escape = true) (l : Bytes) :
    htmlBlockToks o l = [.txt l] ∧ htmlInlineToks o l = [.txt l] := by
  simp [htmlBlockToks, htmlInlineToks, he]

/-- Document text is spelled through the text escaper, hence carries no active character (C19). -/
theorem text_is_escaped (v : Bytes) : Tok.spell (.txt v) = escape v ∧ noActive (Tok.spell (.txt v)) = true :=
  ⟨rfl, Comrak.C19.escape_no_active v⟩

/-- `escape_href` neither hides nor creates a dangerous scheme. -/
theorem dangerous_invariant_under_escapeHref (u : Bytes) : dangerousUrl (escapeHref u) = dangerousUrl u :=
  dangerousUrl_escapeHref u

/-- **No dangerous destination is ever written**: the bytes placed in `href=`/`src=` for a link,
    image or wikilink destination are not matched by the `dangerous_url` rule
    (`javascript:`, `vbscript:`, `file:`, non-image `data:`; any letter case). -/
theorem no_dangerous_destination (o : HtmlOpts) (hu : o.unsafe_ = false) (url : Bytes) :
    dangerousUrl (spellVal (urlVal o url)) = false := by
  unfold urlVal
  cases hd : dangerousUrl url
  · simp [hu, hd, spellVal, APart.spell, dangerousUrl_escapeHref]
  · simp [hu, spellVal]; decide

/-- The value of an allowed attribute, as spelled, contains no `"`, `<` or `>`:
    it cannot close the attribute or the tag. -/
theorem allowed_value_cannot_break_out (ps : List APart) (h : ps.all partOk = true) (c : UInt8)
    (hc : c = 0x22 ∨ c = 0x3C ∨ c = 0x3E) : c ∉ spellVal ps :=
  not_mem_of_valueSafe c hc _ (valueSafe_spellVal ps h)

/-- A browser that entity-decodes the written destination sees a dangerous scheme exactly when the
    document's URL had one (`escape_href` followed by entity decoding neither hides nor creates one). -/
theorem dangerous_invariant_under_escapeHref_decoded (u : Bytes) :
    dangerousUrl (entDecode (escapeHref u)) = dangerousUrl u :=
  dangerousUrl_entDecode_escapeHref u

/-- The spelled value of an allowed attribute is in the safe value language of the byte oracle:
    no raw `"`, `<`, `>`, every `&` begins one of the five entities comrak writes. -/
theorem allowed_value_is_valueSafe (ps : List APart) (h : ps.all partOk = true) : valueSafe (spellVal ps) = true :=
  valueSafe_spellVal ps h

/-- In safe mode no `href`/`src` value written by the renderer decodes to a dangerous URL
    (links, images, wikilinks, footnote links, heading anchors) - all trees. -/
theorem html_destinations_safe (o : HtmlOpts) (hu : o.unsafe_ = false) (nt : NormTable) (t : Tree) :
    (renderToks o nt t).all destOk = true :=
  renderToks_dest o hu nt t

/-- The byte oracle accepts the spelling of any allowed, destination-safe token list. -/
theorem safe_tokens_safe_bytes (ts : List Tok) (ha : ts.all allowedTok = true) (hd : ts.all destOk = true) :
    safeBytes (spell ts) = .ok () :=
  safeBytes_spell ts ha hd

/-- **C02 on bytes.** Under the hypotheses of `html_safe`, the *bytes* of the rendered document are
    accepted by the run-time oracle `safeBytes`: they lex as complete tags, comments and text; every
    tag and attribute name is in the fixed vocabulary; every attribute value and every text run has
    no raw `"`, `<`, `>` and no `&` outside the five entities; the only comment is the omission
    placeholder; no `href`/`src` value entity-decodes to a dangerous URL. -/
theorem html_safe_bytes (o : HtmlOpts) (hu : o.unsafe_ = false)
    (hp : ∀ p, o.headerIds = some p → litSafe p = true)
    (nt : NormTable) (hn : NormSafe nt) (t : Tree) (ht : treeSafe t = true) :
    safeBytes (renderHtml o nt t) = .ok () :=
  safeBytes_spell _ (html_safe o hu hp nt hn t ht) (renderToks_dest o hu nt t)

/-! Non-vacuity -/
example : treeSafe (.node .document {} (.cons (.node (.heading 2 false) {} (.cons (.node (.text [0x3C]) {} .nil) .nil)) .nil)) = true := by
  decide
example : NormSafe {} := normSafe_empty
example : dangerousUrl [0x4A, 0x61, 0x76, 0x61, 0x53, 0x63, 0x72, 0x69, 0x70, 0x74, 0x3A, 0x78] = true := by decide

example : (match safeBytes (renderHtml {} {} (.node .document {} (.cons (.node (.link [0x68, 0x3A, 0x26, 0x22] [0x3C]) {}
    (.cons (.node (.text [0x3C, 0x26]) {} .nil) .nil)) .nil))) with | .ok _ => true | .error _ => false) = true := by
  decide +kernel

end Comrak.C02
