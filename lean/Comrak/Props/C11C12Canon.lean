import Comrak.Lemmas.CanonPosL
/-! C11 / C12 on the canonical class of C03: corollaries of `Comrak.Canon.positions_ok` (Lemmas/CanonPosA..L). -/
namespace Comrak.C11
open Comrak Comrak.Canon
/-- **C11 on the canonical class.**  For every canonical document the positions the model claims
    (`d.toTreeP`, compared node by node with the real parser's positions by C03's correspondence on
    every run) lie inside the written source, lie within their nearest reliable ancestor and follow
    their previous sibling: no bound on nesting depth, number of lines or line length. -/
theorem canon_positions_in_range_nested_ordered (d : Doc) (h : d.ok = true) :
    (claimCheckT (lineEnts d.write) none d.toTreeP).isNone = true := by
  have := positions_ok d h
  unfold Doc.posOk at this
  exact (Bool.and_eq_true _ _ ▸ this).1
end Comrak.C11
namespace Comrak.C12
open Comrak Comrak.Canon
/-- **C12 on the canonical class.**  For every canonical document the slice of the written source
    that each claimed position denotes has the bytes its node kind requires (text literal,
    delimiters, `#`, underline, fence, `>`, line end of a block quote, ...: `sliceCheckT`). -/
theorem canon_positions_denote_their_text (d : Doc) (h : d.ok = true) :
    (sliceCheckT (lineEnts d.write) d.write d.toTreeP).isNone = true := by
  have := positions_ok d h
  unfold Doc.posOk at this
  exact (Bool.and_eq_true _ _ ▸ this).2
end Comrak.C12
