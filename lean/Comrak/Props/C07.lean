/-
C07 - CommonMark output re-parses to the same document.
Theorems about the model of src/cm.rs (Comrak/Cm.lean), which the correspondence harness ties to
the real `format_commonmark` byte for byte. What is proved for all inputs: the delimiter choices
(code span, fence) can never be closed by their own content, the escape decision of `outc` covers
the characters it claims, `table_escape` guards every pipe. What is NOT provable - because it is
false on the pinned tree - is kept visible as counterexample theorems: characters `outc` leaves
raw, the container prefix lost after a literal block. Two defects of the pinned tree are repaired in
/repo (the ordered-list marker width computed from the already incremented number, the space-padded
`%{:2X}`); `item_exit_restores_prefix` and `pct2X_wellformed` state what holds since.
-/
import Comrak.Cm
import Comrak.Lemmas.Cm
import Comrak.Lemmas.CmFrame
import Comrak.Lemmas.Escape
import Comrak.Lemmas.CmBlock
namespace Comrak.C07
open Comrak Bytes Comrak.Cm

theorem longestCharSequence_spec (lit : Bytes) (ch : UInt8) (k : Nat)
    (h : List.replicate k ch <:+: lit) : k ≤ longestCharSequence lit ch :=
  longestAux_ge_infix ch k lit 0 0 h

example : longestCharSequence [0x61, 0x60, 0x60, 0x62, 0x60] 0x60 = 2 := by decide

/-- The fence `format_code_block` chooses cannot be closed by the content: a run of `fenceLen`
    fence characters does not occur anywhere in the literal; and it is a valid fence (≥ 3). -/
theorem code_fence_longer_than_content (info lit : Bytes) :
    ¬ (List.replicate (fenceLen info lit) (fenceChar info) <:+: lit) ∧ 3 ≤ fenceLen info lit := by
  constructor
  · intro h
    have := longestCharSequence_spec lit (fenceChar info) _ h
    simp only [fenceLen] at this
    omega
  · simp only [fenceLen]; omega

/-- The fence character does not occur in the info string (a backtick fence may not have one). -/
theorem fence_char_not_in_info (info : Bytes) (h : fenceChar info = 0x60) : 0x60 ∉ info := by
  intro hm
  simp [fenceChar] at h
  exact h hm

example : fenceLen [] [0x60, 0x60, 0x60, 0x0A] = 4 ∧ fenceChar [0x61, 0x60] = 0x7E := by decide

/-- The chosen delimiter length is between 1 and 32; below 32 it is the least positive length
    that is not the length of a maximal run of `ch` in the literal. -/
theorem shortestUnused_spec (lit : Bytes) (ch : UInt8) :
    1 ≤ shortestUnusedSequence lit ch ∧ shortestUnusedSequence lit ch ≤ 32 ∧
    (shortestUnusedSequence lit ch < 32 → shortestUnusedSequence lit ch ∉ runs ch lit) ∧
    (∀ m, 1 ≤ m → m < shortestUnusedSequence lit ch → m ∈ runs ch lit) := by
  have hs := firstUnused_spec (usedAux ch lit 0 []) 33 0 (by omega)
  simp only [shortestUnusedSequence]
  obtain ⟨_, h2, h3⟩ := hs
  refine ⟨?_, by omega, ?_, ?_⟩
  · by_cases h0 : firstUnused (usedAux ch lit 0 []) 33 0 = 0
    · exfalso; apply h3; exact ⟨by omega, Or.inl h0⟩
    · omega
  · intro hlt hmem
    apply h3
    refine ⟨hlt, Or.inr ?_⟩
    rw [mem_usedAux]
    exact Or.inr ⟨hmem, hlt⟩
  · intro m hm hlt
    have := firstUnused_min (usedAux ch lit 0 []) 33 0 m (by omega) hlt
    rcases this.2 with h0 | hmem
    · omega
    · rw [mem_usedAux] at hmem
      rcases hmem with h | h
      · simp at h
      · exact h.1

/-- For literals whose backtick runs are all shorter than 32 (the writer's set holds the lengths
    1..31; a parsed code span may contain longer runs, see the counterexample below), the delimiter
    length `format_code` chooses is not the length of any maximal backtick run of the literal,
    so the span cannot be closed early. -/
theorem code_span_ticks_unused (lit : Bytes) (h : ∀ r ∈ runs 0x60 lit, r < 32) :
    shortestUnusedSequence lit 0x60 ∉ runs 0x60 lit := by
  have hs := shortestUnused_spec lit 0x60
  intro hm
  by_cases hlt : shortestUnusedSequence lit 0x60 < 32
  · exact hs.2.2.1 hlt hm
  · have := h _ hm; omega

/-- Without the bound the statement is false: 32 is returned although a run of 32 may occur. -/
theorem code_span_ticks_counterexample :
    shortestUnusedSequence ((List.range 31).flatMap (fun n => List.replicate (n + 1) 0x60 ++ [0x61]) ++ List.replicate 32 0x60) 0x60
      ∈ runs 0x60 ((List.range 31).flatMap (fun n => List.replicate (n + 1) 0x60 ++ [0x61]) ++ List.replicate 32 0x60) := by
  decide +kernel

example : shortestUnusedSequence [0x60, 0x61, 0x60, 0x60, 0x60] 0x60 = 2 ∧ runs 0x60 [0x60, 0x61, 0x60, 0x60, 0x60] = [1, 3] := by decide

/-- Bytes that start inline syntax wherever they stand. -/
def inlineSpecial (c : UInt8) : Bool :=
  c == 0x2A || c == 0x5F || c == 0x5B || c == 0x5D || c == 0x23 || c == 0x3C || c == 0x3E || c == 0x5C || c == 0x60 || c == 0x21

/-- In normal text every one of `* _ [ ] # < > \ ` !` is written with a backslash, whatever the
    context; at the start of content `- + =` (not after a digit) and `. )` (after a digit, before
    white space or the end) are; `&` before a letter is; control characters become numeric
    references; in a destination white space is percent-encoded and `` ` < > \ ( ) `` escaped; in a
    title `` ` < > " \ `` are. -/
theorem outc_escapes_specials :
    (∀ c bc fd nx, inlineSpecial c = true → outcBytes c .normal bc fd nx = [0x5C, c]) ∧
    (∀ c nx, (c = 0x2D ∨ c = 0x2B ∨ c = 0x3D) → outcBytes c .normal true false nx = [0x5C, c]) ∧
    (∀ c nx, (c = 0x2E ∨ c = 0x29) → (nx = 0 ∨ isSpace nx = true) → outcBytes c .normal true true nx = [0x5C, c]) ∧
    (∀ bc fd nx, isAsciiAlpha nx = true → outcBytes 0x26 .normal bc fd nx = [0x5C, 0x26]) ∧
    (∀ c bc fd nx, c < 0x20 → outcBytes c .normal bc fd nx = [0x26, 0x23] ++ ofNatDec c.toNat ++ [0x3B]) ∧
    (∀ c bc fd nx, (c = 0x60 ∨ c = 0x3C ∨ c = 0x3E ∨ c = 0x5C ∨ c = 0x28 ∨ c = 0x29) → outcBytes c .url bc fd nx = [0x5C, c]) ∧
    (∀ c bc fd nx, isSpace c = true → outcBytes c .url bc fd nx = pct2X c) ∧
    (∀ c bc fd nx, (c = 0x60 ∨ c = 0x3C ∨ c = 0x3E ∨ c = 0x22 ∨ c = 0x5C) → outcBytes c .title bc fd nx = [0x5C, c]) := by
  refine ⟨?_, ?_, ?_, ?_, ?_, ?_, ?_, ?_⟩
  -- for a listed byte the decision evaluates, whatever the context: the context is only looked at further right
  · intro c bc fd nx h
    simp only [inlineSpecial, Bool.or_eq_true, beq_iff_eq] at h
    rcases h with ((((((((h | h) | h) | h) | h) | h) | h) | h) | h) | h <;> subst h <;> rfl
  · intro c nx h
    rcases h with h | h | h <;> subst h <;> rfl
  · intro c nx h hn
    have hx : (nx == 0 || isSpace nx) = true := by rcases hn with hn | hn <;> simp [hn]
    rcases h with h | h <;> subst h <;> simp only [outcBytes, needsEscape, hx] <;> rfl
  · intro bc fd nx h
    simp only [outcBytes, needsEscape, h]
    rfl
  · intro c bc fd nx h
    -- a control byte is ASCII and below every range of `isPunct`
    have hn : c.toNat < 0x20 := UInt8.lt_iff_toNat_lt.mp h
    have h80 : c < 0x80 := UInt8.lt_iff_toNat_lt.mpr (by show c.toNat < 128; omega)
    have hlow : ∀ d : UInt8, 0x21 ≤ d.toNat → ¬ d ≤ c := fun d hd h' => by
      have := UInt8.le_iff_toNat_le.mp h'; omega
    have hp : isPunct c = false := by
      simp [isPunct, hlow 0x21 (by decide), hlow 0x3A (by decide), hlow 0x5B (by decide), hlow 0x7B (by decide)]
    simp [outcBytes, needsEscape, hp, h, h80]
  · intro c bc fd nx h
    rcases h with h | h | h | h | h | h <;> subst h <;> rfl
  · intro c bc fd nx h
    simp only [isSpace, Bool.or_eq_true, beq_iff_eq] at h
    rcases h with ((h | h) | h) | h <;> subst h <;> rfl
  · intro c bc fd nx h
    rcases h with h | h | h | h | h <;> subst h <;> rfl

example : outcBytes 0x2A .normal false false 0x61 = [0x5C, 0x2A] ∧ outcBytes 0x09 .url false false 0 = [0x25, 0x30, 0x39]
    ∧ outcBytes 0x01 .normal false false 0 = [0x26, 0x23, 0x31, 0x3B] := by decide

/-- What the decision does NOT cover (each is the seed of a listed finding): `~` (strikethrough),
    `|` outside a table node, `:` `@` (extended autolinks), `"` (smart punctuation) are always
    written raw; `-` and `=` (like `+`, `.`, `)`, by the same test) are written raw as soon as
    `begin_content` is off, which it is after a wrap break although the byte then stands at the
    start of a line. -/
theorem outc_gaps_counterexample :
    (∀ bc fd nx, outcBytes 0x7E .normal bc fd nx = [0x7E]) ∧
    (∀ bc fd nx, outcBytes 0x7C .normal bc fd nx = [0x7C]) ∧
    (∀ bc fd nx, outcBytes 0x3A .normal bc fd nx = [0x3A]) ∧
    (∀ bc fd nx, outcBytes 0x40 .normal bc fd nx = [0x40]) ∧
    (∀ bc fd nx, outcBytes 0x22 .normal bc fd nx = [0x22]) ∧
    (∀ fd nx, outcBytes 0x2D .normal false fd nx = [0x2D]) ∧
    (∀ fd nx, outcBytes 0x3D .normal false fd nx = [0x3D]) := by
  refine ⟨?_, ?_, ?_, ?_, ?_, fun _ _ => rfl, fun _ _ => rfl⟩ <;> intro bc fd nx <;> cases bc <;> rfl

/-- Inside a table (custom escape installed, current node not the table/row/cell itself) every
    `|` the writer emits for a literal byte is immediately preceded by a backslash, in every state. -/
theorem table_escape_pipes (st : St) :
    (litByte (pre true st 0x7C) 0x7C).rv = 0x7C :: 0x5C :: (pre false st 0x7C).rv ∧
    (∀ k, k ≠ .table → k ≠ .tableRow → k ≠ .tableCell → tableEscape k 0x7C = true) ∧
    (∀ k c, c ≠ 0x7C → tableEscape k c = false) := by
  refine ⟨?_, ?_, ?_⟩
  · cases hb : st.beginLine <;> simp [pre, litByte, hb]
  · intro k h1 h2 h3
    unfold tableEscape
    split <;> first | contradiction | rfl
  · intro k c hc
    unfold tableEscape
    split <;> first | rfl | simpa using hc

/-! What is false on the pinned tree: model witnesses; the harness replays them on the real code. -/

def txt (s : Bytes) : Tree := .node (.text s) {} .nil
def para (s : Bytes) : Tree := .node .paragraph {} (.cons (txt s) .nil)

/-- `> ```\n> code\n> ```\n>\n> p`: the block is written indented (`>     code`), its literal ends
    the line itself, and the blank line after it is written without the `> ` prefix (the pending
    newline loop adds the prefix only while `need_cr > 1`), so the text re-parses as two block quotes. -/
def quoteCodePara : Tree :=
  .node .document {} (.cons (.node .blockQuote {} (.cons (.node (.codeBlock true 0x60 3 0 [] [0x63, 0x6F, 0x64, 0x65, 0x0A]) {} .nil) (.cons (para [0x70]) .nil))) .nil)

theorem cm_prefix_after_literal_counterexample :
    renderCm {} quoteCodePara =
      [0x3E, 0x20, 0x0A, 0x3E, 0x20, 0x0A, 0x3E, 0x20, 0x20, 0x20, 0x20, 0x20, 0x63, 0x6F, 0x64, 0x65, 0x0A, 0x0A, 0x3E, 0x20, 0x70, 0x0A] := by
  decide +kernel

/-- The percent-encoding of a byte is `%` and two upper-case hex digits: it contains no white
    space and decodes (`hexVal?`) back to the byte. (With the `{:2X}` format of the pinned tree
    bytes below 16 were written `% 9`, which is not an escape and contains a space; repaired.) -/
theorem pct2X_wellformed (c : UInt8) :
    (∀ b ∈ pct2X c, isSpace b = false) ∧
    pct2X c = [0x25, hexDigit (c >>> 4), hexDigit (c &&& 0xF)] ∧
    hexVal? (hexDigit (c >>> 4)) = some (c >>> 4) ∧ hexVal? (hexDigit (c &&& 0xF)) = some (c &&& 0xF) := by
  obtain ⟨h1, h2, _⟩ := hex_roundtrip c
  -- white space has no hex value, so a hex digit is not white space
  have hs : ∀ b v, hexVal? b = some v → isSpace b = false := by
    intro b v hb
    cases hsp : isSpace b with
    | false => rfl
    | true =>
      simp only [isSpace, Bool.or_eq_true, beq_iff_eq] at hsp
      rcases hsp with ((h | h) | h) | h <;> subst h <;> cases hb
  refine ⟨?_, rfl, h1, h2⟩
  intro b hb
  simp only [pct2X, List.mem_cons, List.not_mem_nil, or_false] at hb
  rcases hb with rfl | rfl | rfl
  · rfl
  · exact hs _ _ h1
  · exact hs _ _ h2

/-- Leaving a list item removes from the prefix exactly what entering it added, for every list
    kind, number, `ol_width` and state, whatever was written in between (anything that, like
    `output`, leaves prefix and list stack alone: `output_frame`). On the pinned tree this was false
    at a digit boundary (`9.` -> `10.`): the exit marker was computed from the incremented number. -/
theorem item_exit_restores_prefix (o : CmOpts) (ep ep' : Bool) (pl : NList) (s : Nat) (st st2 : St)
    (h : SameFrame (fmtItem o ep pl s true st) st2) :
    (fmtItem o ep' pl s false st2).prefix_ = st.prefix_ :=
  fmtItem_exit_restores_prefix o ep ep' pl s st st2 h

/-- Every write leaves the container prefix and the ordered-list stack as they were. -/
theorem output_keeps_frame (o : CmOpts) (e : Bool) (st : St) (b : Bytes) (w : Bool) (esc : Esc) :
    (output o e st b w esc).prefix_ = st.prefix_ ∧ (output o e st b w esc).olStack = st.olStack :=
  output_frame o e st b w esc

/-- `9. a` / `10. b` inside a block quote (the former failing input): every line keeps `> `. -/
def quoteNineTen : Tree :=
  let l : NList := { ty := .ordered, start := 9, tight := true }
  .node .document {} (.cons (.node .blockQuote {} (.cons (.node (.list l) {}
    (.cons (.node (.item l) {} (.cons (para [0x61]) .nil)) (.cons (.node (.item l) {} (.cons (para [0x62]) .nil)) .nil))) .nil)) .nil)

example :
    renderCm {} quoteNineTen = [0x3E, 0x20, 0x39, 0x2E, 0x20, 0x61, 0x0A, 0x3E, 0x20, 0x31, 0x30, 0x2E, 0x20, 0x62, 0x0A] := by
  decide +kernel

/-- **Round trip on the canonical class (partial), modulo the parser correspondence.** For a
    canonical document in the sub-class `Doc.cmOk` (see `C17.cm_fixed_point_canon_partial` for the
    class and the excluded constructs) the writer's output is the document's own text; hence any
    `parse` that maps that text to the tree the document spells (what the K harness checks for
    comrak's `parse_document`) maps the writer's output back to the tree it was given. -/
theorem cm_round_trip_canon_partial (parse : Bytes → Tree) (d : Canon.Doc) (_h : d.ok = true) (hc : d.cmOk = true)
    (hK : parse d.write = d.toTree) :
    parse (renderCm {} d.toTree) = d.toTree := by
  rw [CmCanon.cm_fixed d hc, hK]

end Comrak.C07
