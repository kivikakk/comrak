/-
C19  Escaping helpers are total, injective and leave no active character.
All statements are for every byte string (no length bound).
-/
import Comrak.Lemmas.Escape
import Comrak.Lemmas.EscapeTag
namespace Comrak.C19
open Comrak Bytes

/-- The slice-copy loop of `html::escape` computes the per-byte specification. -/
theorem escape_loop_eq_spec (bs : Bytes) : escapeLoop [] bs = escape bs := by
  simpa using escapeLoop_eq [] bs

/-- The run-copy loop of `html::escape_href` computes the per-byte specification. -/
theorem escapeHref_loop_eq_spec (bs : Bytes) : escapeHrefLoop [] bs = escapeHref bs := by
  simpa using escapeHrefLoop_eq [] bs

/-- Character by character: escaping a concatenation is concatenating the escapes. -/
theorem escape_append (a b : Bytes) : escape (a ++ b) = escape a ++ escape b :=
  Comrak.escape_append a b

theorem escapeHref_append (a b : Bytes) : escapeHref (a ++ b) = escapeHref a ++ escapeHref b :=
  Comrak.escapeHref_append a b

/-- No raw `<`, `>`, `"` and no `&` other than at the start of one of the four entities. -/
theorem escape_no_active (a : Bytes) : noActive (escape a) = true :=
  escape_noActive a

/-- In particular none of the three bytes `<`, `>`, `"` occurs in the output. -/
theorem escape_no_raw (a : Bytes) (c : UInt8) (hc : c = 0x3C ∨ c = 0x3E ∨ c = 0x22) :
    c ∉ escape a :=
  noActive_no_raw _ c hc (escape_noActive a)

/-- Every output byte of the href escaper is URL-safe, or is an `&` starting `&amp;` / `&#x27;`. -/
theorem escapeHref_alphabet (a : Bytes) : hrefAlphabet (escapeHref a) = true :=
  escapeHref_hrefAlphabet a

/-- No information is lost by the text escaper: the strict decoder recovers the input. -/
theorem unescapeText_escape (a : Bytes) : unescapeText (escape a) = some a :=
  Comrak.unescapeText_escape a

theorem escape_injective (a b : Bytes) (h : escape a = escape b) : a = b := by
  have := unescapeText_escape a
  rw [h, unescapeText_escape] at this
  exact (Option.some.inj this).symm

/-- The literal round trip fails for the href escaper: `%` is deliberately in the safe set,
    so an already percent-encoded byte and the raw byte escape to the same text.
    (By design, documented at `escape_href`; recorded in known_findings.json.) -/
theorem escapeHref_not_injective :
    escapeHref [0x01] = escapeHref [0x25, 0x30, 0x31] ∧ ([0x01] : Bytes) ≠ [0x25, 0x30, 0x31] := by
  decide

/-- What does hold: the input may hold any number of `%`, as long as none of them is followed by two hex digits
    (no text that already reads as a percent escape).  Decoding then returns the original bytes ... -/
theorem hrefDecode_escapeHref_noPctEscape (a : Bytes) (h : noPctEscape a = true) :
    hrefDecode (escapeHref a) = a := by
  unfold hrefDecode
  induction a with
  | nil => rfl
  | cons b r ih =>
    simp only [noPctEscape, Bool.and_eq_true, Bool.not_eq_true', Bool.and_eq_false_iff, beq_eq_false_iff_ne] at h
    by_cases hb : b = 0x25
    · subst hb
      have h2 : twoHexPrefix r = false := h.1.resolve_left fun h1 => h1 rfl
      rw [escapeHref_cons, hrefByte_safe 0x25 rfl]
      show hrefDecodeAux 0 (0x25 :: escapeHref r) = _
      rw [hrefDecodeAux_pct_literal _ ((twoHexPrefix_escapeHref r).trans h2), ih h.2]
    · rw [escapeHref_cons, hrefDecodeAux_hrefByte b hb, ih h.2]

/-- ... hence the href escaper is injective on that class: the only collisions of `escape_href` are between
    inputs of which at least one already contains `%XY` with two hex digits (the listed by-design finding). -/
theorem escapeHref_injective_noPctEscape (a b : Bytes) (ha : noPctEscape a = true) (hb : noPctEscape b = true)
    (h : escapeHref a = escapeHref b) : a = b := by
  have := hrefDecode_escapeHref_noPctEscape a ha
  rw [h, hrefDecode_escapeHref_noPctEscape b hb] at this
  exact this.symm

/-- The class without any `%` (the `_partial` theorems below) is inside that class. -/
theorem noPctEscape_of_no_pct (a : Bytes) (h : (0x25 : UInt8) ∉ a) : noPctEscape a = true := by
  induction a with
  | nil => rfl
  | cons b r ih =>
    simp only [List.mem_cons, not_or] at h
    have hb : (b == 0x25) = false := by simpa using fun e => h.1 e.symm
    simp [noPctEscape, hb, ih h.2]

/-- In particular on inputs without `%` decoding returns the original bytes ... -/
theorem hrefDecode_escapeHref_partial (a : Bytes) (h : (0x25 : UInt8) ∉ a) :
    hrefDecode (escapeHref a) = a :=
  hrefDecode_escapeHref_noPctEscape a (noPctEscape_of_no_pct a h)

/-- ... and the href escaper is injective on inputs without `%`. -/
theorem escapeHref_injective_partial (a b : Bytes) (ha : (0x25 : UInt8) ∉ a) (hb : (0x25 : UInt8) ∉ b)
    (h : escapeHref a = escapeHref b) : a = b :=
  escapeHref_injective_noPctEscape a b (noPctEscape_of_no_pct a ha) (noPctEscape_of_no_pct b hb) h

/-- The class is tight at its boundary: one `%XY` in the input is enough for a collision. -/
theorem noPctEscape_boundary :
    noPctEscape [0x25, 0x30, 0x31] = false ∧ noPctEscape [0x25, 0x30, 0x47] = true ∧
    noPctEscape [0x25, 0x25, 0x30] = true ∧ escapeHref [0x25, 0x01] = escapeHref [0x25, 0x25, 0x30, 0x31] := by
  decide

/-! Non-vacuity: concrete non-trivial values. -/
example : escape [0x3C, 0x61, 0x26, 0x22] = entLt ++ [0x61] ++ entAmp ++ entQuot := by decide
example : (0x25 : UInt8) ∉ ([0x01, 0x27, 0x26, 0xC3] : Bytes) := by decide
example : noPctEscape [0x31, 0x30, 0x25, 0x20, 0x25, 0x41, 0x01, 0x25] = true := by decide
example : hrefDecode (escapeHref [0x31, 0x30, 0x25, 0x20, 0x25, 0x41, 0x01, 0x25]) = [0x31, 0x30, 0x25, 0x20, 0x25, 0x41, 0x01, 0x25] := by decide
example : escapeHref [0x01, 0x27, 0x26, 0xC3] =
    [0x25,0x30,0x31] ++ entApos ++ entAmp ++ [0x25,0x43,0x33] := by decide

/-! ## The tag writer yields one syntactically complete start tag

`parseStartTag` (Escape.lean) accepts exactly `<` name (` ` name `="` value `"`)* `>` with nothing before or
after, every value free of raw `<`, `>`, `"` and stray `&` (it is run through the strict decoder).  Its fuel
(`length + 1`) always suffices here: one unit per attribute plus one. -/

/-- **C19 (tag writer).** For a valid element name and valid attribute names - values are arbitrary byte
    strings - `write_opening_tag` writes exactly one complete start tag, and reading it back returns the element
    name and every attribute value exactly. -/
theorem openTag_complete (tag : Bytes) (attrs : List (Bytes × Bytes)) (ht : validName tag = true)
    (hk : ∀ kv ∈ attrs, validName kv.1 = true) :
    parseStartTag (openTag tag attrs) = some (tag, attrs) :=
  parseStartTag_openTag tag attrs ht hk

/-- Hence the writer is injective on such arguments: two calls writing the same bytes had the same arguments. -/
theorem openTag_injective (t1 t2 : Bytes) (a1 a2 : List (Bytes × Bytes))
    (h1 : validName t1 = true) (h2 : validName t2 = true)
    (k1 : ∀ kv ∈ a1, validName kv.1 = true) (k2 : ∀ kv ∈ a2, validName kv.1 = true)
    (h : openTag t1 a1 = openTag t2 a2) : t1 = t2 ∧ a1 = a2 := by
  have e1 := openTag_complete t1 a1 h1 k1
  rw [h, openTag_complete t2 a2 h2 k2] at e1
  cases e1
  exact ⟨rfl, rfl⟩

/-- The name hypothesis is needed: names are written raw (the caller's obligation in comrak), so a name holding
    `>` ends the tag early and the result is not one start tag. -/
theorem openTag_raw_name_counterexample :
    parseStartTag (openTag [0x61, 0x3E, 0x62] []) = none ∧ parseStartTag (openTag [0x61] [([0x3E], [])]) = none := by
  decide

/-- Reading `&amp;` / `&#x27;` back as `&` / `'` turns the href escaper's output into the plain percent-encoding
    of the input (safe bytes, `&`, `'` as they are, every other byte as `%XX`). -/
theorem entityDecode_escapeHref_eq_pctEnc (a : Bytes) : entityDecode (escapeHref a) = pctEnc a :=
  entityDecode_escapeHref a

/-- **C19 (href escaper, the round trip that does hold for every byte string).** Entity-decoding and then
    percent-decoding the output gives the percent-decoding of the input: what a browser requests for the
    escaped href is what it would request for the original one.  (The literal round trip is refuted by
    `escapeHref_not_injective`; the lenient `entityDecode` is harmless because every `&` of the output starts
    an entity the escaper wrote itself.) -/
theorem escapeHref_decode_equiv (a : Bytes) : pctDecode (entityDecode (escapeHref a)) = pctDecode a := by
  rw [entityDecode_escapeHref]; exact pctDecode_pctEnc a

/-- Two inputs with the same escaped form are equal up to percent-decoding. -/
theorem escapeHref_injective_mod_pct (a b : Bytes) (h : escapeHref a = escapeHref b) : pctDecode a = pctDecode b := by
  rw [← escapeHref_decode_equiv a, h, escapeHref_decode_equiv b]

/-- The order of the two decoders matters (it is the order a browser uses: attribute value first, URL second):
    swapped, `%26amp;` percent-decodes to `&amp;`, which then entity-decodes to `&`, while the input percent-decodes
    to `&amp;`. -/
theorem escapeHref_decode_order_counterexample :
    entityDecode (pctDecode (escapeHref [0x25,0x32,0x36,0x61,0x6D,0x70,0x3B])) ≠
      pctDecode [0x25,0x32,0x36,0x61,0x6D,0x70,0x3B] := by
  decide

/-! Output length bounds (`(escape b).length ≤ 6 * b.length`, `(escapeHref b).length ≤ 6 * b.length`) are
    `Comrak.C06.escape_len` / `escapeHref_len` in Props/C06.lean. -/

/-! Non-vacuity: `<code class="x&quot; y" data-n="&lt;1&gt;">` - values holding `"`, space, `<`, `>`. -/
example : validName [0x63,0x6F,0x64,0x65] = true ∧ validName [0x63,0x6C,0x61,0x73,0x73] = true ∧
    validName [0x64,0x61,0x74,0x61,0x2D,0x6E] = true := by decide
example : openTag [0x63,0x6F,0x64,0x65] [([0x63,0x6C,0x61,0x73,0x73], [0x78,0x22,0x20,0x79]),
                                          ([0x64,0x61,0x74,0x61,0x2D,0x6E], [0x3C,0x31,0x3E])] =
    [0x3C,0x63,0x6F,0x64,0x65,0x20,0x63,0x6C,0x61,0x73,0x73,0x3D,0x22,0x78] ++ entQuot ++ [0x20,0x79,0x22,
     0x20,0x64,0x61,0x74,0x61,0x2D,0x6E,0x3D,0x22] ++ entLt ++ [0x31] ++ entGt ++ [0x22,0x3E] := by decide +kernel
example : parseStartTag (openTag [0x63,0x6F,0x64,0x65] [([0x63,0x6C,0x61,0x73,0x73], [0x78,0x22,0x20,0x79]),
                                                         ([0x64,0x61,0x74,0x61,0x2D,0x6E], [0x3C,0x31,0x3E])]) =
    some ([0x63,0x6F,0x64,0x65], [([0x63,0x6C,0x61,0x73,0x73], [0x78,0x22,0x20,0x79]),
                                  ([0x64,0x61,0x74,0x61,0x2D,0x6E], [0x3C,0x31,0x3E])]) :=
  openTag_complete _ _ (by decide) (by decide)
-- `%41` and `A` and a raw control byte next to `&`, `'`: the escaped form decodes to the same bytes as the input.
example : pctDecode (entityDecode (escapeHref [0x25,0x34,0x31,0x26,0x27,0x01,0x25])) = [0x41,0x26,0x27,0x01,0x25] ∧
    pctDecode [0x25,0x34,0x31,0x26,0x27,0x01,0x25] = [0x41,0x26,0x27,0x01,0x25] := by decide

end Comrak.C19
