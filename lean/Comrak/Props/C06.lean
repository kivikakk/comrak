/-
C06  Bounded work and output.

Proved here: the size bounds of the escapers; the linear bound of the backtick scanner, for the
specification-level memo and for the positional memo the code implements; termination of `process_emphasis`,
the linear bound of its opener search for the code as it is (since /repo commits 9704a60 and e31def4, every
delimiter character) and the quadratic lower bound of the loop before that repair on the rule-of-three family;
the linear bound of the dollar scanners with their "no closer ahead" memos (since /repo commits 657287d and
b4925f3) and the quadratic cost of the memo-less code-dollar scanner before them; the output size of the HTML
formatter model (per node, and whole trees without footnote definitions); the caps (reference budget, table
autocompletion, XML indentation, link label length, parenthesis depth). Linearity of the block parser
and of the whole inline loop is measured by the search stage (step counters on input families), not proved.
-/
import Comrak.Cost
import Comrak.Lemmas.CostBt
import Comrak.Lemmas.CostEmph
import Comrak.Lemmas.CostEmphQ
import Comrak.Lemmas.CostHtml
import Comrak.Lemmas.CostDl
namespace Comrak.C06
open Comrak Bytes Comrak.Cost

/-- `html::escape` writes at most 6 bytes per input byte. -/
theorem escape_len (b : Bytes) : (escape b).length ≤ 6 * b.length :=
  HtmlSize.escape_len b

/-- `html::escape_href` writes at most 6 bytes per input byte. -/
theorem escapeHref_len (b : Bytes) : (escapeHref b).length ≤ 6 * b.length :=
  HtmlSize.escapeHref_len b

/-- ... and never fewer than it read: output size is within a factor 6 of input size both ways. -/
theorem escape_len_ge (b : Bytes) : b.length ≤ (escape b).length := by
  induction b with
  | nil => simp [escape]
  | cons c r ih =>
    have := (HtmlSize.escByte_len c).1
    simp only [escape, List.flatMap_cons, List.length_append, List.length_cons] at ih ⊢
    omega

theorem findCloser_some (L : Nat) (rs : List Run) (c : Nat) (rest : List Run)
    (h : findCloser L rs = some (c, rest)) : c + totalLen rest = totalLen rs ∧ rest.length < rs.length := by
  induction rs generalizing c rest with
  | nil => simp [findCloser] at h
  | cons r rs ih =>
    simp only [findCloser] at h
    split at h
    · simp only [Option.some.injEq, Prod.mk.injEq] at h
      obtain ⟨rfl, rfl⟩ := h
      simp [totalLen]
    · cases hf : findCloser L rs with
      | none => simp [hf] at h
      | some p =>
        obtain ⟨c', rest'⟩ := p
        simp only [hf, Option.some.injEq, Prod.mk.injEq] at h
        obtain ⟨rfl, rfl⟩ := h
        have := ih c' rest' hf
        simp only [totalLen, List.length_cons]; omega

theorem findCloser_none_iff (L : Nat) (rs : List Run) :
    findCloser L rs = none ↔ (rs.any fun q => q.len == L) = false := by
  induction rs with
  | nil => simp [findCloser]
  | cons r rs ih =>
    simp only [findCloser, List.any_cons]
    by_cases h : r.len = L
    · simp [h]
    · simp only [h, if_false]
      have hb : (r.len == L) = false := by simpa using h
      rw [hb, Bool.false_or, ← ih]
      cases findCloser L rs with
      | none => simp
      | some p => simp

theorem btLoop_bound (fuel : Nat) (scanned : Bool) (rs : List Run) (tail : Nat) :
    btLoop fuel scanned rs tail ≤ btBound scanned rs tail := by
  fun_induction btLoop fuel scanned rs tail
  · exact Nat.zero_le _
  · exact Nat.zero_le _
  · rename_i scanned r rs tail _ ih
    have := btBound_step scanned r rs rs tail 0 (by omega) (Nat.le_refl _)
    omega
  · rename_i scanned r rs tail _ _ ih
    have := btBound_step scanned r rs rs tail 0 (by omega) (Nat.le_refl _)
    omega
  · rename_i scanned r rs tail _ _ c rest hf ih
    have ⟨h1, h2⟩ := findCloser_some r.len rs c rest hf
    have := btBound_step scanned r rs rest tail c h1 (Nat.le_of_lt h2)
    omega
  · rename_i scanned r rs tail _ hmemo hf ih
    have hany := (findCloser_none_iff r.len rs).mp hf
    have hs : scanned = false := by
      cases scanned with
      | false => rfl
      | true => simp [hany] at hmemo
    subst hs
    have := btBound_fail r rs tail
    omega

theorem length_le_totalLen (rs : List Run) (hpos : ∀ r ∈ rs, 1 ≤ r.len) : rs.length ≤ totalLen rs := by
  induction rs with
  | nil => simp [totalLen]
  | cons r rs ih =>
    have := hpos r (by simp)
    have := ih (fun q hq => hpos q (by simp [hq]))
    simp only [totalLen, List.length_cons]; omega

/-- **The backtick scanner is linear**: over a whole inline text of `n` bytes (runs + tail) the counted
    steps (1 per `scan_to_closing_backtick` call + 1 per byte it scans) are at most `3 n`. -/
theorem backticks_linear (rs : List Run) (tail : Nat) (hpos : ∀ r ∈ rs, 1 ≤ r.len) :
    btSteps rs tail ≤ 3 * (totalLen rs + tail) := by
  have := length_le_totalLen rs hpos
  have : btSteps rs tail ≤ rs.length + 2 * totalLen rs + tail := btLoop_bound rs.length false rs tail
  omega

/-- The positional memo of the code is not the specification-level memo of `btSteps`: on
    `a``a`a`a`a`` the implementation rejects the third single backtick in one step (its entry was
    overwritten by the first code span's closer) although a closer follows, so it takes fewer steps -
    and drops a code span (a parsing defect outside C06). The correspondence
    stage ties the real counter to `btStepsPos` (equality) and checks the `3 n` bound on every input. -/
theorem btStepsPos_differs_counterexample :
    btStepsPos [⟨1, 2⟩, ⟨1, 1⟩, ⟨1, 1⟩, ⟨1, 1⟩, ⟨1, 1⟩] 0 = 14 ∧ btSteps [⟨1, 2⟩, ⟨1, 1⟩, ⟨1, 1⟩, ⟨1, 1⟩, ⟨1, 1⟩] 0 = 15 := by
  decide

/-! ## The positional memo, exactly as implemented (`btStepsPos` = the real `backtick-scan` counter in K)

`backticks[k]` may be overwritten by any scan, successful ones included, so the implementation can forget
a closer (`btStepsPos_differs_counterexample`). It can never *invent* one: every entry that lies ahead of
the current position is the start of a run of that length that is still ahead (`MemoInv`). Hence, once
`scanned_for_backticks` is set, an opener that passes the memo test always finds its closer - at most one
scan of a whole inline text fails - and the amortised bound of the specification-level memo carries over
unchanged. The bound does not depend on `MAXBACKTICKS`. -/

/-- The invariant of the positional memo holds initially (all entries 0, position 0). -/
theorem memoInv_initial (rs : List Run) : MemoInv (fun _ => 0) 0 rs := memoInv_init rs

/-- With the flag set, an opener that is not rejected by `backticks[len] <= pos` has a closer ahead:
    after the first failed scan no scan fails again. -/
theorem scanPos_succeeds_after_flag (memo : Nat → Nat) (pos : Nat) (r : Run) (rs : List Run)
    (hI : MemoInv memo pos (r :: rs)) (hm : pos + r.gap + r.len < memo r.len) :
    (scanPos r.len memo (pos + r.gap + r.len) rs).found = true :=
  scanPos_found_of_ahead r.len _ memo _ rs (memoInv_tail memo pos r rs hI r.len hm)

theorem btLoopPos_amortised (fuel : Nat) (scanned : Bool) (memo : Nat → Nat) (pos : Nat) (rs : List Run) (tail : Nat)
    (hI : MemoInv memo pos rs) : btLoopPos fuel scanned memo pos rs tail ≤ btBound scanned rs tail :=
  btLoopPos_bound fuel scanned memo pos rs tail hI

/-- One step per opener plus twice the bytes, without a hypothesis on the runs (runs of length 0 do not occur
    in a text). -/
theorem backticks_pos_linear' (rs : List Run) (tail : Nat) :
    btStepsPos rs tail ≤ rs.length + 2 * totalLen rs + tail :=
  btLoopPos_amortised rs.length false (fun _ => 0) 0 rs tail (memoInv_init rs)

/-- **The backtick scanner as implemented is linear**: the model that equals the real `backtick-scan`
    counter takes at most `3 n` steps on an inline text of `n` bytes, for all inputs. -/
theorem backticks_pos_linear (rs : List Run) (tail : Nat) (hpos : ∀ r ∈ rs, 1 ≤ r.len) :
    btStepsPos rs tail ≤ 3 * (totalLen rs + tail) := by
  have := length_le_totalLen rs hpos
  have := backticks_pos_linear' rs tail
  omega

/-! ## `process_emphasis`: termination, the linear bound, and the loop before its repair

Model: `Cost.emLoop` (the outer closer loop and the inner opener search over an abstract delimiter stack with
`openers_bottom`), counting what the hook counter `emphasis-opener-search` counts; `emSteps fix ds` runs it on
a whole inline text with the termination measure as fuel. `fix = true` is the code as it is since /repo
commits 9704a60 and e31def4 (42 slots: every delimiter character split by can_open x length % 3; after every
failed search the bottom is raised, `mod_three_rule_invoked` is gone) and is tied to the real counter by
equality in K, `~` (strikethrough) with its `insert_emph` exit included. `fix = false` is the loop before
those commits (12 slots, a single one for `_`, raised only `if !mod_three_rule_invoked`), kept for the
historical counterexample. -/

def emSorted (ds : List Delim) : Prop := ds.Pairwise (fun a b => a.pos < b.pos)

/-- **`process_emphasis` terminates**: with the measure "characters left + delimiters still to visit" as fuel
    the loop never runs out, as it is and as it was before the repair, for every delimiter list. -/
theorem emphasis_terminates (fix : Bool) (ds : List Delim) : ∃ k, emSteps fix ds = some k :=
  emLoop_terminates fix _ _ [] ds (Nat.le_refl _)

/-- The amortised bound from any state that satisfies the stack invariant (positions increase up the
    stack, no bottom above the current closer), when every closer with property `P` either has its bottom
    raised after every failed search (always, for the code as it is) or has no odd match among the openers
    with property `P`. -/
theorem emLoop_amortised (P : Delim → Prop) (hP : ∀ d n, P d → P { d with cur := n }) (fix : Bool)
    (hfix : ∀ c, P c → c.canClose = true → alwaysRaise fix c = true ∨
      ∀ o, P o → o.canOpen = true → o.ch = c.ch → oddMatch o c = false)
    (fuel : Nat) (bot : Nat → Nat) (left right : List Delim) (hI : EmInv P bot left right)
    (hf : sumCur right + right.length ≤ fuel) :
    ∃ k, emLoop fix fuel bot left right = some k ∧ k ≤ emPot bot left right :=
  emLoop_bound P hP fix hfix fuel bot left right hI hf

theorem emPot_initial (ds : List Delim) : emPot (fun _ => 0) [] ds = 44 * ds.length + sumCur ds := by
  simp only [emPot, potA_zero, List.length_nil, sumCur]; omega

theorem emphasis_linear_of (fix : Bool) (ds : List Delim) (hs : emSorted ds)
    (hok : ∀ c ∈ ds, c.canClose = true → alwaysRaise fix c = true ∨
      ∀ o ∈ ds, o.canOpen = true → o.ch = c.ch → oddMatch o c = false) :
    ∃ k, emSteps fix ds = some k ∧ k ≤ 44 * ds.length + sumCur ds := by
  -- P d: d is a delimiter of the text up to its current length
  let P : Delim → Prop := fun d => ∃ d0 ∈ ds, ∃ n, d = { d0 with cur := n }
  have hP : ∀ d n, P d → P { d with cur := n } := fun d n ⟨d0, h0, _, e⟩ => ⟨d0, h0, n, by rw [e]⟩
  have hfix : ∀ c, P c → c.canClose = true → alwaysRaise fix c = true ∨
      ∀ o, P o → o.canOpen = true → o.ch = c.ch → oddMatch o c = false := by
    rintro c ⟨c0, hc0, _, rfl⟩ hcl
    rcases hok c0 hc0 hcl with h | h
    · exact Or.inl h
    · right
      rintro o ⟨o0, ho0, _, rfl⟩ h1 h3
      exact h o0 ho0 h1 h3
  have hI : EmInv P (fun _ => 0) [] ds :=
    ⟨fun d hd => by simp at hd, hs, fun _ _ _ => Nat.zero_le _, fun d hd => by simp at hd,
      fun d hd => ⟨d, hd, d.cur, rfl⟩⟩
  obtain ⟨k, h1, h2⟩ := emLoop_bound P hP fix hfix _ _ [] ds hI (Nat.le_refl _)
  exact ⟨k, h1, by rw [emPot_initial] at h2; exact h2⟩

/-- **The opener search of `process_emphasis`, as the code is, is linear for every delimiter character**:
    at most `44 n + chars` counted steps for `n` delimiter runs with `chars` delimiter characters in all (42
    slots pay for the failed searches, each delimiter is dropped once, each match uses up characters, each
    delimiter is visited as a closer) - no hypothesis about the characters or the rule of three. The model
    `emSteps true` equals the real `emphasis-opener-search` counter on every text of the K stage (`* _ ~`).
    History: /repo commit 9704a60 raised the bottom unconditionally only for `*` and `_`; `~ ^ |` kept the
    guarded update and `"|~a|"^n a "|a~|"^n` was still quadratic (found by the thorough tier); commit e31def4
    gave every character its six slots and dropped the guard. -/
theorem emphasis_linear (ds : List Delim) (hs : emSorted ds) :
    ∃ k, emSteps true ds = some k ∧ k ≤ 44 * ds.length + sumCur ds :=
  emphasis_linear_of true ds hs (fun _ _ _ => Or.inl rfl)

/-- In bytes: every delimiter run has at least one character, so at most `45` steps per delimiter byte. -/
theorem emphasis_linear_bytes (ds : List Delim) (hs : emSorted ds) (hc : ∀ d ∈ ds, 1 ≤ d.cur) :
    ∃ k, emSteps true ds = some k ∧ k ≤ 45 * sumCur ds := by
  obtain ⟨k, h1, h2⟩ := emphasis_linear ds hs
  have hl : ds.length ≤ sumCur ds := by
    clear h1 h2 hs
    induction ds with
    | nil => simp [sumCur]
    | cons d ds ih =>
      have := hc d (by simp)
      have := ih (fun e he => hc e (by simp [he]))
      simp only [List.length_cons, sumCur]; omega
  exact ⟨k, h1, by omega⟩

/-- No opener / closer pair of the text falls under the rule of three. -/
def noOddMatch (ds : List Delim) : Prop :=
  ∀ o ∈ ds, ∀ c ∈ ds, o.canOpen = true → c.canClose = true → o.ch = c.ch → oddMatch o c = false

/-- The loop before /repo commit 9704a60 was linear only on texts without an odd match (then
    `mod_three_rule_invoked` stays false and `openers_bottom` is raised after every failed search). -/
theorem emphasis_linear_old_noodd (ds : List Delim) (hs : emSorted ds) (hno : noOddMatch ds) :
    ∃ k, emSteps false ds = some k ∧ k ≤ 44 * ds.length + sumCur ds :=
  emphasis_linear_of false ds hs (fun c hc hcl => Or.inr (fun o ho h1 h3 => hno o ho c hc h1 hcl h3))

/-- **Quadratic lower bound for `process_emphasis` as it was before /repo commit 9704a60** (`emSteps false`;
    repaired there and in e31def4: `openers_bottom[ix]` is raised after every failed search and every
    character has its own can_open x length % 3 slots - see `emphasis_linear`, `emphasis_fixed_on_family`). On `"**b*a "`
    repeated `2 m` times (`4 m` delimiter runs, `6 m` delimiter characters, `12 m` bytes) the single `*`
    closers that find no opener walked over all the `**` openers left below (rule of three), the bottom was
    not raised, and the `**` openers accumulated - at least `m^2 / 2` steps. Former known finding
    C06-emphasis-rule-of-three-quadratic (same mechanism as `"*a **b"` repeated), now `fixed`. -/
theorem emphasis_quadratic_counterexample (m : Nat) :
    ∃ k, emSteps false (emFam 0 m) = some k ∧ m * m ≤ 2 * k ∧
      (emFam 0 m).length = 4 * m ∧ sumCur (emFam 0 m) = 6 * m ∧ emSorted (emFam 0 m) := by
  obtain ⟨hl, hc⟩ := emFam_length m 0
  refine ⟨qcost 0 m, ?_, ?_, hl, hc, (emFam_sorted m 0).1⟩
  · unfold emSteps
    have := emLoop_fam m (sumCur (emFam 0 m) + (emFam 0 m).length) (fun _ => 0) [] 0 (by omega) rfl (by simp)
    simpa using this
  · have := qcost_ge m 0
    omega

/-- ... so the bound of `emphasis_linear` did not hold for the loop before /repo commit 9704a60: on
    `emFam 0 370` (4440 bytes of `*`-only text) it took more than `44 n + chars` steps. -/
theorem emphasis_pinned_not_linear_counterexample :
    ∃ ds, emSorted ds ∧ (∀ d ∈ ds, d.ch = 0x2A) ∧
      ∃ k, emSteps false ds = some k ∧ 44 * ds.length + sumCur ds < k := by
  obtain ⟨k, h1, h2, h3, h4, h5⟩ := emphasis_quadratic_counterexample 370
  exact ⟨emFam 0 370, h5, emFam_star 370 0, k, h1, by omega⟩

/-- The code as it is on the same family: linear (at most `182 m` steps for `12 m` bytes by the general bound). -/
theorem emphasis_fixed_on_family (m : Nat) : ∃ k, emSteps true (emFam 0 m) = some k ∧ k ≤ 182 * m := by
  obtain ⟨k, h1, h2⟩ := emphasis_linear (emFam 0 m) (emFam_sorted m 0).1
  obtain ⟨hl, hc⟩ := emFam_length m 0
  exact ⟨k, h1, by omega⟩

/-! ## Output size of the HTML formatter (model `renderHtml` of Html.lean)

`HtmlSize.tokSize` over-approximates what a token spells (6 bytes per byte that goes through `escape` /
`escape_href`, everything else exactly); what `enter` / `exit` write for one node is bounded for all 41 kinds
(`enter_size`, `exit_size`), and the bound is summed over the tree by mutual induction. -/

open HtmlSize in
/-- What `enter` writes for one node, in any writer state: at most 6 bytes per byte of its strings (for an
    image: plus its alternative text) + 300 + the source position (up to 12 times: twice plain or once
    escaped) + its other decimal numbers + the heading anchor (twice) and the id prefix. -/
theorem html_enter_size (o : HtmlOpts) (nt : NormTable) (cx : Ctx) (v : NodeValue) (sp : Sp) (cs : Forest) (A : Nat)
    (hA : o.headerIds ≠ none → ∀ issued h, ((anchorize nt issued h).1).length ≤ A) (st : St) :
    (spell (enter o nt cx v sp cs st).1).length ≤
      6 * (payloadIn v + altLen v cs) + 300 + 12 * spLen sp + numLen v + 2 * A + pfxLen o :=
  Nat.le_trans (spell_le_size _) (enter_size o nt cx v sp cs A hA st)

open HtmlSize in
/-- What `exit` writes for one node that is neither a footnote definition nor the last paragraph of one. -/
theorem html_exit_size (o : HtmlOpts) (cx : Ctx) (v : NodeValue) (cs : Forest)
    (hv : ∀ n t, v ≠ .footnoteDefinition n t) (hp : ∀ n t, cx.parent ≠ some (.footnoteDefinition n t)) (st : St) :
    (spell (exit o cx v cs st).1).length ≤ 6 * payloadOut v + 64 + numLen v :=
  Nat.le_trans (spell_le_size _) (exit_size o cx v cs hv hp st)

open HtmlSize in
/-- **Output size of the HTML formatter is linear in the size of the tree**, for every option vector and
    every tree without footnote definitions: 6 bytes per byte of document text (`textBytesT`: image titles and
    escaped tags count twice, they are written twice), a constant per node, and the decimal strings of source positions and numbers.
    With `header_ids` on, the heading anchors are bounded by `A` by hypothesis (the `NormTable` and the `-N`
    uniqueness suffix are outside this bound). The hypothesis asks for the bound from every set of issued anchors,
    and the `-N` suffix grows with the set, so no `A` meets it: the theorem speaks of `header_ids` off, where the
    hypothesis is void (`html_size_bound_noids_partial`).
    `_partial`: footnote definitions are excluded; their back-references are `total_references` links of
    bounded size each (`html_backrefs_size`), the sum over definitions is not carried through the induction. -/
theorem html_size_bound_partial (o : HtmlOpts) (nt : NormTable) (t : Tree) (A : Nat)
    (hA : o.headerIds ≠ none → ∀ issued h, ((anchorize nt issued h).1).length ≤ A) (hno : noFnT t) :
    (renderHtml o nt t).length ≤
      6 * textBytesT t + (364 + 2 * A + pfxLen o) * nodesT t + 12 * spDigitsT t + 2 * numDigitsT t + 17 :=
  renderHtml_size o nt t A hA hno

open HtmlSize in
/-- Without `header_ids` (no anchors are generated) the bound needs no hypothesis about the normaliser. -/
theorem html_size_bound_noids_partial (o : HtmlOpts) (nt : NormTable) (t : Tree) (hid : o.headerIds = none)
    (hno : noFnT t) :
    (renderHtml o nt t).length ≤ 6 * textBytesT t + 364 * nodesT t + 12 * spDigitsT t + 2 * numDigitsT t + 17 := by
  have h := renderHtml_size o nt t 0 (fun h => absurd hid h) hno
  have hp : pfxLen o = 0 := by simp [pfxLen, hid]
  simpa [hp] using h

open HtmlSize in
/-- The back-references of one footnote definition: `k` links, each at most
    `6 |name| + 2 digits(index) + 4 D + 256` bytes (`D` bounds the digits of the reference numbers). -/
theorem html_backrefs_size (name : Bytes) (fnIx D k r : Nat) (h : ∀ n, r ≤ n → n < r + k → dig n ≤ D) :
    (spell (backrefToks name fnIx k r)).length ≤ k * (6 * name.length + 2 * dig fnIx + 4 * D + 256) :=
  Nat.le_trans (spell_le_size _) (backrefToks_size name fnIx D k r h)

/-- The factor 6 is reached: a text node of `n` double quotes renders as `6 n` bytes. -/
theorem html_size_factor_six_counterexample :
    (renderHtml {} {} (.node (.text [0x22, 0x22, 0x22]) {} .nil)).length = 6 * 3 := by decide

/-! ## The dollar scanners: linear since /repo commits 657287d and b4925f3

`Cost.dlLoop true mc md` is the inline loop restricted to letters, digits, spaces, `$`, backtick and backslash
with `handle_dollars` as the code is: `scan_to_closing_code_dollar` returns at once when
`no_code_dollar_closer` is set and sets it when a scan runs to the end of the input; `scan_to_closing_dollar(len)`
returns at once when it would start before `no_dollar_closer_before[len]`, and every failed scan (end of the
input, space before the closing `$`, digit after it) records the position at which it failed.
`dlSteps mc md` is its `dollar-scan` step count, equal to the real counter in K. -/

/-- The amortised bound from any state of the inline loop: 2 per byte ahead + the potential of the memos. -/
theorem dlLoop_amortised (mc md : Bool) (inp : Bytes) (fuel pos : Nat) (memo : Nat → Nat) (scanned : Bool) (fl : DlFlags) :
    dlCost (dlLoop true mc md inp fuel pos memo scanned fl) ≤ 2 * (inp.length - pos) + flagPot md fl inp.length :=
  dlLoop_bound mc md inp fuel pos memo scanned fl

/-- From the start state all the potential is there: the text length for `no_code_dollar_closer`, and with
    `math_dollars` once more for each of the two records. -/
theorem dlSteps_le (mc md : Bool) (inp : Bytes) : dlSteps mc md inp ≤ (if md then 5 else 3) * inp.length := by
  have h := dlLoop_bound mc md inp (inp.length + 1) 0 (fun _ => 0) false {}
  cases md <;> simp [dlSteps, dlEvents, flagPot, nb] at h ⊢ <;> omega

/-- **The code-dollar scanner as it is is linear**: with `math_dollars` off, the `dollar-scan` steps of a
    whole inline text are at most `3 n` for `n` bytes, for every text (at most one scan runs to the end - it
    sets `no_code_dollar_closer` -, a scan that finds its `` `$ `` costs what it consumes and the loop resumes
    behind it, a closer too close to make a span costs at most 2). -/
theorem dollar_linear (mc : Bool) (inp : Bytes) : dlSteps mc false inp ≤ 3 * inp.length :=
  dlSteps_le mc false inp

/-- **The dollar scanners as they are are linear, with `math_dollars` too**: at most `5 n` `dollar-scan`
    steps for every text of `n` bytes, with or without `math_code`. A `$` / `$$` scan only runs when it starts at
    or behind the position where the last one of its length failed; it then either finds its closer (and the
    loop resumes behind what it consumed) or fails at a later byte `q` after `q - p + 1` steps and moves the
    record to `q`: the records only move forward, `n` bytes each in all.
    History: /repo commit 657287d only remembered scans that ran to the end of the input; the `$` scans ended by
    the space / digit rule set nothing, and `"a" ++ "$\\" x k ++ " $"` (every `$` an opener, every scan refused
    at the last `$`) still cost about `1.5 k^2` steps (241001 for 1203 bytes at `k = 400`, found by this model
    and confirmed against the real counter); repaired in /repo commit b4925f3, which this model follows. -/
theorem math_dollar_linear (mc : Bool) (inp : Bytes) : dlSteps mc true inp ≤ 5 * inp.length :=
  dlSteps_le mc true inp

/-! ## Before /repo commit 657287d the code-dollar scanner had no memo: quadratic on `("$`a")^n`

The theorems of this section are about `cdStepsOld` / `dlStepsOld`, the scanner as it was; the defect was
repaired in /repo commit 657287d (`dollar_linear`, `math_dollar_linear`). -/

def tri : Nat → Nat
  | 0 => 0
  | n + 1 => tri n + (n + 1)

/-- On `n` unclosed openers `p` bytes apart: `(p + 1) n (n + 1) / 2 - n` steps. -/
theorem cdSteps_replicate (n p : Nat) : cdStepsOld (List.replicate n p) + n = (p + 1) * tri n := by
  induction n with
  | zero => simp [cdStepsOld, tri]
  | succ n ih =>
    simp only [List.replicate_succ, cdStepsOld, List.sum_replicate_nat, List.length_replicate, tri]
    simp only [Nat.mul_add, Nat.add_mul, Nat.mul_one, Nat.one_mul] at ih ⊢
    have : n * p = p * n := Nat.mul_comm n p
    omega

theorem tri_ge (n : Nat) : n * n + n ≤ 2 * tri n := by
  induction n with
  | zero => simp [tri]
  | succ n ih =>
    simp only [tri, Nat.mul_add, Nat.add_mul, Nat.mul_one, Nat.one_mul]
    omega

/-- **Quadratic lower bound for `scan_to_closing_code_dollar` as it was before /repo commit 657287d**
    (repaired there: `no_code_dollar_closer`; see `dollar_linear`): on a text with `n` executed
    openers none of which has a closer, `p >= 1` bytes after each `$` up to the next opener (the backtick at
    least), the scanner took at least `n^2 / 2` steps for `(p + 1) n` bytes of input (e.g. `` "$`a" ``
    repeated: the backtick of a failed opener opens a code span with the next backtick, which swallows every
    other `$`; the executed openers are 6 bytes apart, `p = 5`).
    Former known finding C06-code-dollar-quadratic, now `fixed`. -/
theorem dollar_quadratic (n p : Nat) (hp : 1 ≤ p) : n * n ≤ 2 * cdStepsOld (List.replicate n p) := by
  have h0 := cdSteps_replicate n p
  have h1 := tri_ge n
  have h2 : 2 * tri n ≤ (p + 1) * tri n := Nat.mul_le_mul_right _ (by omega)
  omega

/-! ### The byte-level scanner and the abstraction `cdStepsOld`

`Cost.dlStepsOld` (the loop without the flags; it equalled the real `dollar-scan` counter in K before the repair)
is the sum of the costs of the executed openers; a failed scan costs the bytes after its `` $` `` + 1, i.e. the
bytes after its `$`; summed over openers at increasing positions that is `cdStepsOld` of the pieces between
them (the driver still checks this abstraction against `dlStepsOld`). -/

/-- A failed scan costs everything that is left + 1. -/
theorem cdScan_fail_cost (prev : UInt8) (bs : Bytes) (h : (cdScan prev bs).2 = none) :
    (cdScan prev bs).1 = bs.length + 1 :=
  (cdScan_cost prev bs).1 h

/-- Any scan costs at most that, and a successful one exactly what it consumes. -/
theorem cdScan_cost_le (prev : UInt8) (bs : Bytes) :
    (cdScan prev bs).1 ≤ bs.length + 1 ∧ ∀ c, (cdScan prev bs).2 = some c → (cdScan prev bs).1 = c ∧ c ≤ bs.length := by
  have ⟨h1, h2⟩ := cdScan_cost prev bs
  refine ⟨?_, h2⟩
  cases h : (cdScan prev bs).2 with
  | none => exact Nat.le_of_eq (h1 h)
  | some c => have := h2 c h; omega

/-- Opener positions increase and lie inside the text (each `$` is followed by its backtick). -/
def cdAsc (len : Nat) : List Nat → Prop
  | [] => True
  | [s] => s < len
  | s :: s' :: r => s < s' ∧ cdAsc len (s' :: r)

theorem cdPieces_total (len : Nat) : ∀ (r : List Nat) (s : Nat), cdAsc len (s :: r) →
    s < len ∧ (cdPieces len (s :: r)).sum + (cdPieces len (s :: r)).length = len - s
  | [], s, h => by simp only [cdAsc] at h; simp [cdPieces]; omega
  | s' :: r, s, h => by
    simp only [cdAsc] at h
    have ih := cdPieces_total len r s' h.2
    simp only [cdPieces, List.sum_cons, List.length_cons] at ih ⊢
    omega

/-- **`cdStepsOld` is the sum of the failed scans**: if the executed openers have their `$` at increasing
    positions `ss` of a text of `len` bytes and every scan fails (cost = bytes after the `$`), the total is
    `cdStepsOld` of the pieces. -/
theorem cdSteps_pieces (len : Nat) : ∀ ss : List Nat, cdAsc len ss →
    cdStepsOld (cdPieces len ss) = (ss.map (fun s => len - s - 1)).sum
  | [], _ => by simp [cdPieces, cdStepsOld]
  | [s], h => by simp [cdPieces, cdStepsOld]
  | s :: s' :: r, h => by
    simp only [cdAsc] at h
    have ih := cdSteps_pieces len (s' :: r) h.2
    have ht := cdPieces_total len r s' h.2
    simp only [cdPieces, cdStepsOld, List.map_cons, List.sum_cons] at ih ⊢
    rw [ih]
    omega

/-- The expanded reference text never exceeds the budget, whatever is looked up and how often. -/
theorem refmap_budget (st : RefState) (sizes : List Nat) (h : st.refSize ≤ st.maxRefSize) :
    refGranted st sizes + st.refSize ≤ st.maxRefSize := by
  induction sizes generalizing st with
  | nil => simpa [refGranted] using h
  | cons s rest ih =>
    simp only [refGranted, refLookup]
    split
    · have := ih st h
      simp; omega
    · rename_i hs
      have := ih { st with refSize := st.refSize + s } (by simp; omega)
      simp at this ⊢; omega

/-- Table rows stop being added once more than `MAX_AUTOCOMPLETED_CELLS` cells were autocompleted:
    at most one row's worth (`cols`) beyond the cap. -/
theorem autocomplete_cap (cols auto : Nat) (rows : List Nat) (h : auto ≤ MAX_AUTOCOMPLETED_CELLS + cols) :
    autocompleteRows cols auto rows ≤ MAX_AUTOCOMPLETED_CELLS + cols := by
  induction rows generalizing auto with
  | nil => simpa [autocompleteRows] using h
  | cons c rest ih =>
    simp only [autocompleteRows]
    split
    · exact h
    · exact ih _ (by omega)

/-- Every cell of an accepted body row is either in the source or autocompleted: `cols` cells per row. -/
theorem body_cells_eq (cols auto : Nat) (rows : List Nat) :
    cols * acceptedRows cols auto rows + auto = presentCells cols auto rows + autocompleteRows cols auto rows := by
  fun_induction acceptedRows cols auto rows
  · simp [presentCells, autocompleteRows]
  · simp_all [presentCells, autocompleteRows]
  · rename_i h ih
    simp only [presentCells, autocompleteRows, h, if_false, Nat.mul_add, Nat.mul_one]
    omega

/-- **Table auto-completion is capped.**  The body of a table has at most the cells that are in the
    source, plus `MAX_AUTOCOMPLETED_CELLS`, plus one row: for every column count and every sequence
    of row widths (the harness compares `acceptedRows` / `autocompleteRows` with the `num_rows` /
    `num_nonempty_cells` bookkeeping of the real `NodeTable` and observes the bound on tables above the cap). -/
theorem table_cells_capped (cols : Nat) (rows : List Nat) :
    cols * acceptedRows cols 0 rows ≤ presentCells cols 0 rows + MAX_AUTOCOMPLETED_CELLS + cols := by
  have h1 := body_cells_eq cols 0 rows
  have h2 := autocomplete_cap cols 0 rows (by omega)
  omega

example : acceptedRows 3 0 [1, 5, 3] = 3 ∧ presentCells 3 0 [1, 5, 3] = 7 ∧ autocompleteRows 3 0 [1, 5, 3] = 2 := by decide

theorem xml_indent_cap (depth : Nat) : xmlIndent depth ≤ 40 := by
  unfold xmlIndent XML_MAX_INDENT; omega

/-- `link_label` gives up after `MAX_LINK_LABEL_LENGTH + 1` steps. -/
theorem label_bounded (length steps : Nat) (l : Bytes) (h : length ≤ MAX_LINK_LABEL_LENGTH) :
    labelScan length steps l ≤ steps + (MAX_LINK_LABEL_LENGTH + 1 - length) := by
  fun_induction labelScan length steps l <;> simp_all <;> omega

theorem paren_depth_bounded (d : Nat) (l : Bytes) (k : Nat) (hd : d ≤ 32) (h : parenDepth d l = some k) : k ≤ 32 := by
  fun_induction parenDepth d l <;> simp_all <;> omega

example : (escape [0x22, 0x61]).length = 7 := rfl
example : findCloser 2 [⟨1, 1⟩, ⟨0, 2⟩, ⟨3, 1⟩] = some (4, [⟨3, 1⟩]) := rfl
-- a`b``c`d : opener 1 fails? no: closes at the third run; ``c is skipped over
example : btSteps [⟨1, 1⟩, ⟨1, 2⟩, ⟨1, 1⟩] 1 = 6 := rfl
-- three openers of different lengths: the first failing scan sets the flag, the others cost 1 each
example : btSteps [⟨1, 1⟩, ⟨1, 2⟩, ⟨1, 3⟩] 1 = 1 + 8 + 1 + 1 := rfl
-- the positional memo on the witness of `btStepsPos_differs_counterexample` stays below 3 n = 30
example : btStepsPos [⟨1, 2⟩, ⟨1, 1⟩, ⟨1, 1⟩, ⟨1, 1⟩, ⟨1, 1⟩] 0 ≤ 3 * 10 := by decide
-- `a*a*`: one opener, one closer: 2 closer-loop iterations + 1 search step; `*a **b*a **b*a **b`: 9 steps
example : emSteps true [⟨0x2A, 1, 1, true, false, 2⟩, ⟨0x2A, 1, 1, false, true, 4⟩] = some 3 := rfl
example : emSteps false (emFam 0 3) = some 24 ∧ emSteps true (emFam 0 3) = some 21 := by decide
-- `a~~b~ c`: the `~` closer finds the `~~` opener, the remaining lengths differ, insert_emph returns None: the loop ends
example : emSteps true [⟨0x7E, 2, 2, true, false, 3⟩, ⟨0x7E, 1, 1, false, true, 5⟩, ⟨0x2A, 1, 1, false, true, 8⟩] = some 3 := rfl
example : noOddMatch [⟨0x2A, 1, 1, true, false, 2⟩, ⟨0x2A, 1, 1, false, true, 4⟩] := by
  intro o ho c hc; simp at ho hc; rcases ho with rfl | rfl <;> rcases hc with rfl | rfl <;> decide
example : cdStepsOld [2, 2, 2] = 8 + 5 + 2 := rfl
-- "a" + "$`a" x 5. Before the repair: every other `$` is swallowed by the code span that the backtick of a failed
-- opener opens with the next backtick; the executed openers are 6 bytes apart and none closes: 14 + 8 + 2 steps.
example : (dlEventsOld true false [0x61, 0x24,0x60,0x61, 0x24,0x60,0x61, 0x24,0x60,0x61, 0x24,0x60,0x61, 0x24,0x60,0x61]).map
    (fun e => (e.dpos, e.cost, e.ranOut)) = [(1, 14, true), (7, 8, true), (13, 2, true)] := rfl
example : cdStepsOld (cdPieces 16 [1, 7, 13]) = 14 + 8 + 2 := rfl
example : cdAsc 16 [1, 7, 13] := by simp [cdAsc]
-- As the code is: the first scan sets the flag, the later openers cost nothing.
example : (dlEvents true false [0x61, 0x24,0x60,0x61, 0x24,0x60,0x61, 0x24,0x60,0x61, 0x24,0x60,0x61, 0x24,0x60,0x61]).map
    (fun e => (e.dpos, e.cost, e.ranOut)) = [(1, 14, true)] := rfl
-- a closer is a `$` right after a backtick, escaped or not: a$`a\`$
example : (dlEvents true false [0x61, 0x24, 0x60, 0x61, 0x5C, 0x60, 0x24]).map (fun e => (e.dpos, e.cost, e.closed)) = [(1, 4, true)] := rfl
-- math_dollars: a$b$ closes (2 steps); a$b $ is ended by the space rule (3 steps, rejected; the last `$` then runs out in 1 step); "$\\" x 3: one scan to the end
example : (dlEvents false true [0x61, 0x24, 0x62, 0x24]).map (fun e => (e.cost, e.closed)) = [(2, true)] := rfl
example : (dlEvents false true [0x61, 0x24, 0x62, 0x20, 0x24]).map (fun e => (e.cost, e.rejected)) = [(3, true), (1, false)] := rfl
example : dlSteps false true [0x61, 0x24,0x5C,0x5C, 0x24,0x5C,0x5C, 0x24,0x5C,0x5C] = 9 ∧
    dlStepsOld false true [0x61, 0x24,0x5C,0x5C, 0x24,0x5C,0x5C, 0x24,0x5C,0x5C] = 9 + 6 + 3 := by decide
-- hypotheses of html_size_bound_partial are satisfiable: a paragraph with a text, no header ids
example : HtmlSize.noFnT (.node .paragraph {} (.cons (.node (.text [0x61]) {} .nil) .nil)) := by
  simp [HtmlSize.noFnT, HtmlSize.noFnF]
example : refGranted ⟨10, 0⟩ [4, 4, 4, 2] = 10 := rfl
example : labelScan 0 0 (List.replicate 2000 0x61) = 1001 := by decide +kernel

end Comrak.C06
