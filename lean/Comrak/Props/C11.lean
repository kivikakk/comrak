/-
C11  Source positions lie inside the source and nest consistently.
Theorems about the oracles the search stage executes (so that a verdict of the oracle means what it
says) and about the models of the position mechanisms of the block parser.
-/
import Comrak.Lemmas.Sourcepos
namespace Comrak.C11
open Comrak Bytes

/-- The lines (with their terminators) partition the source: nothing is lost or invented. -/
theorem lineTable_covers (s : Bytes) : joinLines (splitLines s) = s := by
  induction s with
  | nil => rfl
  | cons b r ih =>
    simp only [splitLines]
    split
    · subst_vars; simp [joinLines, ih]
    · split
      · split
        · rename_i h1 h2 c r' l t ls heq
          split
          · subst_vars
            rw [heq] at ih
            have hl : l = [] := by
              simp only [splitLines] at heq
              simp only [if_true, List.cons.injEq, Prod.mk.injEq] at heq
              exact heq.1.1.symm
            subst hl
            simp only [joinLines, List.nil_append, List.cons_append] at ih ⊢
            rw [ih]
          · subst_vars; simp [joinLines, ih]
        · subst_vars; simp [joinLines, ih]
      · split
        · rename_i heq
          rw [heq] at ih
          simp only [joinLines] at ih
          simp [joinLines, ← ih]
        · rename_i heq
          rw [heq] at ih
          simp only [joinLines, List.append_assoc] at ih ⊢
          simp [← ih]

/-- Nesting is a pre-order: a grandchild inside a child inside a parent is inside the parent. -/
theorem spNested_trans (a b c : Sp) (h1 : spNested a b = true) (h2 : spNested b c = true) :
    spNested a c = true := by
  simp only [spNested, Bool.and_eq_true] at *
  exact ⟨posLe_trans h1.1 h2.1, posLe_trans h2.2 h1.2⟩

theorem spNested_refl (a : Sp) : spNested a a = true := by
  simp [spNested, posLe_refl]

/-- Sibling order composes: if `a` ends before `b` starts, `b` does not start after it ends, and `b`
    ends before `c` starts, then `a` ends before `c` starts. -/
theorem spOrdered_trans (a b c : Sp) (h1 : spOrdered a b = true)
    (hb : posLe b.sl b.sc b.el b.ec = true) (h2 : spOrdered b c = true) : spOrdered a c = true := by
  simp only [spOrdered] at *
  exact posLt_of_lt_le h1 (posLe_trans hb (posLe_of_posLt h2))

/-- Children of ordered siblings are ordered too (what makes the per-level check sufficient). -/
theorem spOrdered_of_nested (p q x y : Sp) (h : spOrdered p q = true) (hx : spNested p x = true)
    (hy : spNested q y = true) : spOrdered x y = true := by
  simp only [spOrdered, spNested, Bool.and_eq_true] at *
  exact posLt_of_lt_le (posLt_of_le_lt hx.2 h) hy.1

/-- A position accepted by the range oracle has its lines inside the table and a positive start column. -/
theorem spInRange_sound (lt : List LineEnt) (sp : Sp) (h : spInRange lt sp = true) :
    1 ≤ sp.sl ∧ sp.sl ≤ sp.el ∧ sp.el ≤ lt.length ∧ 1 ≤ sp.sc ∧ spStartLeEnd sp = true := by
  simp only [spInRange_eq, Bool.and_eq_true] at h
  obtain ⟨⟨⟨h1, h2⟩, _⟩, h4⟩ := h
  simp only [spLinesOk, Bool.and_eq_true, decide_eq_true_eq] at h1
  have hs : 1 ≤ sp.sc := by
    unfold spStartColOk at h2
    split at h2
    · simp only [Bool.and_eq_true, decide_eq_true_eq] at h2; exact h2.1
    · simp at h2
  exact ⟨h1.1.1, h1.1.2, h1.2, hs, h4⟩

/-- Bytes are conserved: what is consumed plus what stays queued is what was queued. -/
theorem spx_consume_conserves (q : SpxQ) (rem c : Nat) (q' : SpxQ)
    (h : spxConsume q rem = some (c, q')) : spxBytes q' + rem = spxBytes q := by
  induction q generalizing rem with
  | nil => simp [spxConsume] at h
  | cons e q ih =>
    obtain ⟨sp, x⟩ := e
    simp only [spxConsume] at h
    split at h
    · have := ih _ h
      simp only [spxBytes_cons]; omega
    · split at h
      all_goals
        obtain ⟨_, rfl⟩ := Prod.mk.inj (Option.some.inj h)
        simp only [spxBytes_cons]; omega

/-- On a queue of exact spans (every element covers exactly its byte count on one line) `consume`
    never panics while bytes remain, the column it returns lies inside the span of the element it
    stops in, and the queue stays exact. -/
theorem spx_consume_in_span (q : SpxQ) (rem : Nat) (hq : spxExact q) (hr : rem ≤ spxBytes q)
    (hpos : 1 ≤ rem) :
    ∃ c q', spxConsume q rem = some (c, q') ∧ spxExact q' ∧
      ∃ e ∈ q, e.1.sc ≤ c ∧ c ≤ e.1.ec := by
  refine spxConsume_inv (fun e => e.1.ec + 1 = e.1.sc + e.2 ∧ 1 ≤ e.2) (fun c e => e.1.sc ≤ c ∧ c ≤ e.1.ec) 1
    (Nat.le_refl 1) (fun e he => by omega) (fun sp x rem he h1 h2 => ?_) q rem hq hr hpos ?_
  · simp only at he ⊢; omega
  · rintro rfl; simp [spxBytes] at hr; omega

/-- Every queued element is a well-formed (possibly empty) range. -/
def spxWf (q : SpxQ) : Prop := ∀ e ∈ q, e.1.sc ≤ e.1.ec + 1

/-- For EVERY well-formed queue - exact or not - `consume` does not panic while bytes remain, the
    column it returns lies within the range of the element it stops in (`sc - 1 ≤ c ≤ ec`, the
    lower bound being the "nothing consumed" answer), and the queue stays well-formed. On the pinned
    tree the inexact case was an `assert!` (repaired in /repo). -/
theorem spx_consume_in_range (q : SpxQ) (rem : Nat) (hq : spxWf q) (hr : rem ≤ spxBytes q) (hne : q ≠ []) :
    ∃ c q', spxConsume q rem = some (c, q') ∧ spxWf q' ∧
      ∃ e ∈ q, e.1.sc ≤ c + 1 ∧ c ≤ e.1.ec := by
  refine spxConsume_inv (fun e => e.1.sc ≤ e.1.ec + 1) (fun c e => e.1.sc ≤ c + 1 ∧ c ≤ e.1.ec) 0
    (Nat.zero_le 1) (fun e he => by omega) (fun sp x rem he h1 h2 => ?_) q rem hq hr (Nat.zero_le _) hne
  simp only at he ⊢; omega

/-- **Under its hypothesis** the three-way rule by which `finalize_borrowed` chooses the end never
    puts the end before the start: at end of input and on the block's own terminator line the end is
    on the current line (at or after the line the block started on); when a later line fails to
    continue the block, the block started on an earlier line. -/
theorem blockEnd_after_start (ctx : CloseCtx) (startLine lineNumber curEnd lastLen : Nat)
    (hs : startLine ≤ lineNumber)
    (hyp : ctx = .laterLine → startLine < lineNumber) :
    startLine ≤ (blockEnd ctx lineNumber curEnd lastLen).1 := by
  cases ctx <;> simp only [blockEnd]
  · exact hs
  · exact hs
  · have := hyp rfl; omega

/-- Without the hypothesis the rule fails: a block that is finalized while its own opening line is
    still being processed (an HTML block of types 1-5 whose end condition is met on that line) and
    that is not one of the "own line" kinds gets `end = (line - 1, previous line's length)`.
    `<!-- x -->` as the whole input: line 1, nothing before it -> end `0:0` on the pinned tree
    (repaired in /repo: the caller sets the end of such a block to the current line after
    `finalize`). -/
theorem blockEnd_counterexample :
    ∃ startLine lineNumber curEnd lastLen, startLine ≤ lineNumber ∧
      ¬ startLine ≤ (blockEnd .laterLine lineNumber curEnd lastLen).1 :=
  ⟨1, 1, 10, 0, by decide, by decide⟩

/-- The end column a thematic break is given when it is opened is the last byte of its line, in
    every container (repaired in /repo: `finalize_borrowed` does not replace it). -/
theorem thematicEnd_exact (lineLen : Nat) : thematicEndCode lineLen = thematicEndSpec lineLen := rfl

/-- The pinned computation was exact only at container offset 0. -/
theorem thematicEnd_old_exact_iff (lineLen offset : Nat) (h : offset + 1 ≤ lineLen) :
    thematicEndOld lineLen offset = thematicEndSpec lineLen ↔ offset = 0 := by
  simp only [thematicEndOld, thematicEndSpec]; omega

/-- `1. ---` (7 bytes with the LF, offset 3): the pinned tree answered column 3, the line ends at 6. -/
theorem thematicEnd_old_counterexample : thematicEndOld 7 3 = 3 ∧ thematicEndSpec 7 = 6 := by decide

example : spNested { sl := 1, sc := 1, el := 4, ec := 0 } { sl := 3, sc := 5, el := 3, ec := 5 } = true := by decide
example : lineTable [0x61, 0x0D, 0x0A, 0x62, 0x0D, 0x63, 0x0A, 0x0A, 0x64] = [(0, 1), (3, 1), (5, 1), (7, 0), (8, 1)] := by
  decide
example : spInRange (lineEnts [0x61, 0x0A, 0x0A]) { sl := 1, sc := 1, el := 2, ec := 0 } = true := by decide
example : spInRange (lineEnts [0x61, 0x0A]) { sl := 1, sc := 1, el := 0, ec := 0 } = false := by decide
example : spxExact [({ sl := 1, sc := 1, el := 1, ec := 3 }, 3), ({ sl := 1, sc := 4, el := 1, ec := 4 }, 1)] := by
  intro e he; simp at he; rcases he with rfl | rfl <;> decide
example : spxConsume [({ sl := 1, sc := 1, el := 1, ec := 3 }, 3), ({ sl := 1, sc := 4, el := 1, ec := 4 }, 1)] 2
    = some (2, [({ sl := 1, sc := 3, el := 1, ec := 3 }, 1), ({ sl := 1, sc := 4, el := 1, ec := 4 }, 1)]) := by decide

end Comrak.C11
