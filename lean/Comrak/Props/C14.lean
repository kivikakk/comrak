/-
C14  Tagfilter neutralises exactly the disallowed raw HTML tags.
`tagfilter`/`tagfilterBlock` model src/html.rs with every index explicit; `disallowedAt` and
`rewriteSpec` are written independently from the GFM "Disallowed Raw HTML" rule.
-/
import Comrak.Lemmas.TagFilter
import Comrak.Lemmas.TagFilterSurv
import Comrak.Html
import Comrak.Drv.C14
namespace Comrak.C14
open Comrak Bytes

/-- The index panic of the pinned tree, kept as a witness of the repaired defect:
    `tagfilter("<xmp")` read `literal[4]` of a 4-byte literal. -/
theorem tagfilter_oob_before_fix : tagfilterE [0x3C, 0x78, 0x6D, 0x70] = none := by decide

/-- The code as it is now never fails and agrees with the pinned code wherever that was defined. -/
theorem tagfilter_total (l : Bytes) (b : Bool) (h : tagfilterE l = some b) : tagfilter l = b := by
  simp [tagfilter, h]

/-- **C14: the filter decides exactly the GFM rule** - `<`, optional `/`, one of the nine names in
    any letter case, then HTML white space (tab, LF, FF, CR, space), `>` or `/>` - for every literal.
    (On the pinned tree form feed was not a delimiter; repaired in /repo commit e44bf23.) -/
theorem tagfilter_eq_spec (l : Bytes) : tagfilter l = disallowedAt l := by
  cases l with
  | nil => rfl
  | cons b r =>
    by_cases hb : b = 0x3C
    · subst hb
      by_cases hlen : r.length < 2
      · have h0 : r.length + 1 < 3 := by omega
        simp [tagfilter, tagfilterE, h0, disallowedAt, disallowedAtW_short _ r hlen]
      · have h0 : ¬ (0x3C :: r : Bytes).length < 3 := by simp; omega
        simp only [tagfilter, tagfilterE, h0, decide_false, List.getElem?_cons_zero, bne_self_eq_false,
          Bool.or_self, Bool.false_eq_true, if_false, disallowedAt, disallowedAtW, if_true]
        -- at most one name can match, so the loop's first match decides what any match decides
        rw [← find_eq_any tagBlacklist (fun n => isPrefixCI n (stripSlash r))
          (fun n => tagDelimW htmlSpace ((stripSlash r).drop n.length))
          fun a ha b hb => blacklist_unique (stripSlash r) a b ha hb]
        unfold firstBlacklisted
        rw [stripSlash_eq_drop]
        cases tagBlacklist.find? _ with
        | none => rfl
        | some n => simp only [List.drop_drop]; exact delimAt_getD _ _
    · simp [tagfilter, tagfilterE, disallowedAt, disallowedAtW, hb]

/-- The statement for literals without a form feed: all that held before /repo commit e44bf23. -/
theorem tagfilter_eq_spec_partial (l : Bytes) (_h : (0x0C : UInt8) ∉ l) : tagfilter l = disallowedAt l :=
  tagfilter_eq_spec l

/-- The point that was excluded on the pinned tree: a form feed ends a tag name for a browser (and for
    cmark-gfm's `isspace`); `<title\f` is now filtered. -/
theorem tagfilter_formfeed_filtered :
    tagfilter [0x3C, 0x74, 0x69, 0x74, 0x6C, 0x65, 0x0C] = true ∧
    disallowedAt [0x3C, 0x74, 0x69, 0x74, 0x6C, 0x65, 0x0C] = true ∧
    disallowedAtC [0x3C, 0x74, 0x69, 0x74, 0x6C, 0x65, 0x0C] = false := by decide

/-- In an HTML block the output is the input with `<` -> `&lt;` exactly at the disallowed
    positions: nothing else is altered, for every literal. -/
theorem tagfilterBlock_eq_rewriteSpec (l : Bytes) : tagfilterBlock l = rewriteSpec l := by
  unfold rewriteSpec
  induction l with
  | nil => rfl
  | cons b r ih =>
    have e := tagfilter_eq_spec (b :: r)
    unfold disallowedAt at e
    simp only [tagfilterBlock, rewriteSpecW, ih, e]
    by_cases hb : b = 0x3C
    · subst hb; by_cases hd : disallowedAtW htmlSpace (0x3C :: r) = true <;> simp [hd]
    · simp [hb]

theorem rewriteSpecW_congr (l : Bytes) (h : (0x0C : UInt8) ∉ l) : rewriteSpecW isSpace l = rewriteSpec l := by
  unfold rewriteSpec
  induction l with
  | nil => rfl
  | cons b r ih =>
    have hr : (0x0C : UInt8) ∉ r := fun hm => h (by simp [hm])
    have e := disallowedAt_eq_disallowedAtC (b :: r) h
    unfold disallowedAt disallowedAtC at e
    simp only [rewriteSpecW, ih hr, e]

theorem tagfilterBlock_eq_rewriteSpec_partial (l : Bytes) (_h : (0x0C : UInt8) ∉ l) :
    tagfilterBlock l = rewriteSpec l := tagfilterBlock_eq_rewriteSpec l

/-- The inline cascade (escape > safe placeholder > tagfilter > raw): with raw HTML allowed and
    the extension on, an inline literal is written with its leading `<` as `&lt;` iff the rule
    says so, and verbatim otherwise. -/
theorem inline_filtered_iff (o : HtmlOpts) (l : Bytes) (he : o.escape = false) (hu : o.unsafe_ = true)
    (ht : o.tagfilter = true) :
    spell (htmlInlineToks o l) = if disallowedAt l then S.v_lt ++ l.drop 1 else l := by
  simp only [htmlInlineToks, he, hu, ht, tagfilter_eq_spec]
  by_cases hd : disallowedAt l = true <;> simp [hd, spell, Tok.spell]

theorem block_filtered (o : HtmlOpts) (l : Bytes) (he : o.escape = false) (hu : o.unsafe_ = true)
    (ht : o.tagfilter = true) :
    spell (htmlBlockToks o l) = rewriteSpec l := by
  simp [htmlBlockToks, he, hu, ht, spell, Tok.spell, tagfilterBlock_eq_rewriteSpec]

/-- With the extension off (raw HTML allowed) literals are written verbatim. -/
theorem unfiltered_verbatim (o : HtmlOpts) (l : Bytes) (he : o.escape = false) (hu : o.unsafe_ = true)
    (ht : o.tagfilter = false) :
    spell (htmlBlockToks o l) = l ∧ spell (htmlInlineToks o l) = l := by
  simp [htmlBlockToks, htmlInlineToks, he, hu, ht, spell, Tok.spell]

example : disallowedAt [0x3C, 0x2F, 0x58, 0x4D, 0x70, 0x20] = true := by decide      -- "</XMp "
example : disallowedAt [0x3C, 0x78, 0x6D, 0x70, 0x73, 0x3E] = false := by decide     -- "<xmps>"
example : rewriteSpec [0x61, 0x3C, 0x78, 0x6D, 0x70, 0x3E, 0x3C, 0x62, 0x3E] =
    [0x61] ++ S.v_lt ++ [0x78, 0x6D, 0x70, 0x3E, 0x3C, 0x62, 0x3E] := by decide

/-- **C14: no GFM-disallowed tag survives in a filtered HTML block** (the HTML tokenizer's white
    space: tab, LF, FF, CR, space), for every literal. -/
theorem no_disallowed_survives (l : Bytes) : survivorsH (tagfilterBlock l) = 0 := by
  rw [tagfilterBlock_eq_rewriteSpec]
  exact survivorsW_rewrite htmlSpace spOk_htmlSpace l

theorem no_disallowed_survives_partial (l : Bytes) (_h : (0x0C : UInt8) ∉ l) :
    survivorsH (tagfilterBlock l) = 0 := no_disallowed_survives l

/-- The formerly excluded point: `<title\f` is rewritten, nothing survives. -/
theorem no_disallowed_survives_formfeed :
    survivorsH (tagfilterBlock [0x3C, 0x74, 0x69, 0x74, 0x6C, 0x65, 0x0C]) = 0 := by decide

/-- The counter the harness asks the driver for (`survivors`, Drv/C14.lean) is `survivorsH`. -/
theorem drv_survivors_eq (out : Bytes) : Comrak.Drv.C14.survivors out = survivorsH out := by
  induction out with
  | nil => rfl
  | cons b r ih =>
    simp only [Comrak.Drv.C14.survivors, survivorsH, survivorsW, disallowedAt] at ih ⊢
    rw [ih]
    rfl

/-- The filtered inline literal: its only rewritten position is the first byte, and after the rewrite that
    position holds no `<`. -/
theorem inline_first_not_disallowed (l : Bytes) :
    disallowedAt (if disallowedAt l then S.v_lt ++ l.drop 1 else l) = false := by
  by_cases hd : disallowedAt l = true
  · simp only [hd, if_true]; simp [disallowedAt, disallowedAtW, S.v_lt]
  · simp only [hd]; simpa using hd

/-- **Locality.** The block filter carries no state from one tag to the next: what is written for the text in
    front of a `<` does not depend on what follows that `<`, and what is written from a `<` on does not depend on
    what precedes it - no quote, comment or open-tag context can switch the filter off (or on). -/
theorem tagfilterBlock_local (p t : Bytes) :
    tagfilterBlock (p ++ 0x3C :: t) = tagfilterBlock p ++ tagfilterBlock (0x3C :: t) := by
  rw [tagfilterBlock_eq_rewriteSpec, tagfilterBlock_eq_rewriteSpec, tagfilterBlock_eq_rewriteSpec]
  exact rewriteSpecW_append_lt htmlSpace (by decide) p t

/-- Hence a disallowed tag is neutralised behind every prefix. -/
theorem disallowed_neutralised_in_context (p t : Bytes) (h : disallowedAt (0x3C :: t) = true) :
    tagfilterBlock (p ++ 0x3C :: t) = tagfilterBlock p ++ S.v_lt ++ tagfilterBlock t := by
  rw [tagfilterBlock_local]
  have e := tagfilter_eq_spec (0x3C :: t)
  simp [tagfilterBlock, e, h]

-- a block with two disallowed tags and one allowed tag
example : survivorsH [0x3C, 0x78, 0x6D, 0x70, 0x3E, 0x3C, 0x62, 0x3E, 0x3C, 0x2F, 0x58, 0x4D, 0x50, 0x3E] = 2 := by decide
example : survivorsH (tagfilterBlock [0x3C, 0x78, 0x6D, 0x70, 0x3E, 0x3C, 0x62, 0x3E, 0x3C, 0x2F, 0x58, 0x4D, 0x50, 0x3E]) = 0 := by
  decide
-- "<xmp<xmp>" : the first `<` is not disallowed (delimiter position holds `<`), the second is; after the rewrite
-- the first is followed by `xmp&lt;xmp>` and still is not disallowed.
example : tagfilterBlock [0x3C, 0x78, 0x6D, 0x70, 0x3C, 0x78, 0x6D, 0x70, 0x3E] =
    [0x3C, 0x78, 0x6D, 0x70] ++ S.v_lt ++ [0x78, 0x6D, 0x70, 0x3E] := by decide
-- `<div title="` in front of `<xmp>`: the open quote changes nothing.
example : tagfilterBlock ([0x3C, 0x64, 0x69, 0x76, 0x20, 0x74, 0x69, 0x74, 0x6C, 0x65, 0x3D, 0x22] ++ [0x3C, 0x78, 0x6D, 0x70, 0x3E]) =
    [0x3C, 0x64, 0x69, 0x76, 0x20, 0x74, 0x69, 0x74, 0x6C, 0x65, 0x3D, 0x22] ++ S.v_lt ++ [0x78, 0x6D, 0x70, 0x3E] := by decide +kernel
example : disallowedAt [0x3C, 0x78, 0x6D, 0x70, 0x3E] = true := by decide

end Comrak.C14
