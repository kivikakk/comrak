/-
C13  Extensions are inert on documents that do not use their syntax.

The tables are the real ones (regenerated from `Subject::new` before every
proof stage, `Comrak/Generated/SpecialChars.lean`); `trigger` is written from the documentation
(`Comrak/Features.lean`); the dispatch and the consultation sites are hand-written models of
src/parser/inlines.rs and src/parser/mod.rs (`Comrak/Inline/Dispatch.lean`, `Comrak/Inline/Sites.lean`).
-/
import Comrak.Lemmas.Dispatch
import Comrak.Lemmas.Sites
import Comrak.Props.C19
import Comrak.Html
namespace Comrak.C13
open Comrak Bytes

/-- Switching feature `F` on changes `special_chars` at most at `F`'s trigger bytes
    (re-proved over the regenerated tables on every run). -/
theorem tables_differ_only_at_triggers (o : Opts) (F : Feature) (c : UInt8) (h : trigger F c = false) :
    special (o.enable F) c = special o c :=
  testBit_getD_enable tablesOk_special o F c h

theorem skip_differs_only_at_triggers (o : Opts) (F : Feature) (c : UInt8) (h : trigger F c = false) :
    skip (o.enable F) c = skip o c :=
  testBit_getD_enable tablesOk_skip o F c h

theorem smart_differs_only_at_triggers (o : Opts) (F : Feature) (c : UInt8) (h : trigger F c = false) :
    smartT (o.enable F) c = smartT o c :=
  testBit_getD_enable tablesOk_smart o F c h

/-- `smart_chars` never holds a byte outside smart's documented trigger set. -/
theorem smart_table_within_triggers (o : Opts) (c : UInt8) (h : smartT o c = true) :
    trigger .smart c = true := by
  have hk : agreeOutside o.tab.smartMask 0 (maskOf (triggerBytes .smart)) = true := by
    rw [TabBits.smartMask, List.getD_eq_getElem?_getD]
    cases hx : Generated.smartMasks[o.tab.index]? with
    | none => rfl
    | some x => exact List.all_eq_true.mp smartOk_holds x (List.mem_of_getElem? hx)
  cases ht : trigger .smart c with
  | true => rfl
  | false =>
    rw [trigger_eq_testBit] at ht
    have := agreeOutside_testBit _ _ _ _ hk c.toNat_lt ht
    rw [Nat.zero_testBit] at this
    exact this.symm.trans h

/-- The tables depend on no option other than the seven bits they are indexed by. -/
theorem tables_fed_by_seven_options : othersOk = true := othersOk_holds

theorem stops_inert (o : Opts) (F : Feature) (wb : Bool) (c : UInt8) (h : trigger F c = false) :
    stops (o.enable F) wb c = stops o wb c := by
  simp only [stops, tables_differ_only_at_triggers o F c h, smart_differs_only_at_triggers o F c h]
  cases F
  case smart =>
    have : smartT o c = false := by
      cases hs : smartT o c with
      | false => rfl
      | true => rw [smart_table_within_triggers o c hs] at h; exact absurd h (by decide)
    simp [this]
  all_goals rfl

/-- A byte that is not a trigger of `F` selects the same branch of `parse_inline`, with the same
    option bits handed to that branch, whether or not `F` is on. -/
theorem arm_inert (o : Opts) (F : Feature) (wb : Bool) (c : UInt8) (h : trigger F c = false) :
    arm (o.enable F) wb c = arm o wb c := by
  cases F
  -- each read of these options stands behind a test of `c` against one of the feature's trigger bytes
  case autolink | smart | wikilinksTitleAfterPipe | wikilinksTitleBeforePipe | strikethrough | subscript
      | superscript | mathDollars | mathCode | spoiler => site_simp h [arm]
  all_goals rfl

/-- `find_special_char` returns the same position with `F` on or off when the scanned input has no
    trigger byte of `F`. -/
theorem findSpecialChar_inert (o : Opts) (F : Feature) (wb : Bool) (s : Bytes) (p : Nat)
    (h : triggerFree F s = true) :
    findSpecialChar (o.enable F) wb s p = findSpecialChar o wb s p := by
  have key : ∀ (l : Bytes) (n : Nat), (∀ b ∈ l, trigger F b = false) →
      findFrom (o.enable F) wb l n = findFrom o wb l n := by
    intro l
    induction l with
    | nil => intros; rfl
    | cons c r ih =>
      intro n hl
      simp only [findFrom, stops_inert o F wb c (hl c (List.mem_cons_self ..)),
        ih (n + 1) fun b hb => hl b (List.mem_cons_of_mem _ hb)]
  unfold findSpecialChar
  split
  · exact key _ _ fun b hb => triggerFree_iff.mp h b (List.mem_of_mem_drop hb)
  · rfl

/-- Where the scan stops is the only thing the tables decide about a text run; how the run is cut into
    `Text` nodes is invisible in the output: two adjacent text runs are written exactly as their
    concatenation (`Text` is written through `escape`, and `escape` is a homomorphism: C19). -/
theorem text_run_split_invisible (a b : Bytes) :
    spell [Tok.txt a, Tok.txt b] = spell [Tok.txt (a ++ b)] := by
  simp [spell, Tok.spell, Comrak.C19.escape_append]

/-- The same for any cutting of a run into pieces. -/
theorem text_runs_concat_invisible (runs : List Bytes) :
    spell (runs.map Tok.txt) = spell [Tok.txt runs.flatten] := by
  induction runs with
  | nil => simp [spell, Tok.spell, escape]
  | cons a r ih =>
    simp only [spell, List.map_cons, List.flatMap_cons, List.flatMap_nil, List.append_nil, Tok.spell,
      List.flatten_cons, Comrak.C19.escape_append] at ih ⊢
    rw [ih]

/-! ### Inline consultation sites (`Comrak/Inline/Sites.lean`, tied to the source by the audit) -/

theorem site_inert_emphasis_eligible (o : Opts) (F : Feature) (c : UInt8) (h : trigger F c = false) :
    siteEmphasisEligible (o.enable F) c = siteEmphasisEligible o c := by
  cases F
  case strikethrough | subscript | superscript | spoiler => site_simp h [siteEmphasisEligible]
  all_goals rfl

theorem site_inert_insert_emph_reject (o : Opts) (F : Feature) (c : UInt8) (a b : Nat)
    (h : trigger F c = false) :
    siteInsertEmphReject (o.enable F) c a b = siteInsertEmphReject o c a b := by
  cases F
  case strikethrough | subscript => site_simp h [siteInsertEmphReject]
  all_goals rfl

theorem site_inert_emph_kind (o : Opts) (F : Feature) (c : UInt8) (n : Nat) (h : trigger F c = false) :
    siteEmphKind (o.enable F) c n = siteEmphKind o c n := by
  cases F
  case subscript | strikethrough | superscript | spoiler | underline => site_simp h [siteEmphKind]
  all_goals rfl

theorem site_inert_handle_delim (o : Opts) (F : Feature) (c : UInt8) (co cc : Bool) (h : trigger F c = false) :
    siteHandleDelim (o.enable F) c co cc = siteHandleDelim o c co cc := by
  cases F
  case smart => site_simp h [siteHandleDelim]
  all_goals rfl

theorem site_inert_hyphen_period (o : Opts) (F : Feature) (c : UInt8) (n : Bool) (h : trigger F c = false) :
    siteHyphenPeriod (o.enable F) c n = siteHyphenPeriod o c n := by
  site_tac F h [siteHyphenPeriod]

theorem site_inert_dollars (o : Opts) (F : Feature) (c : UInt8) (n : Nat) (b : Bool) (h : trigger F c = false) :
    siteDollars (o.enable F) c n b = siteDollars o c n b := by
  cases F
  case mathDollars | mathCode => site_simp h [siteDollars]
  all_goals rfl

theorem site_inert_autolink_with (o : Opts) (F : Feature) (c : UInt8) (wb : Bool) (h : trigger F c = false) :
    siteAutolinkWith (o.enable F) c wb = siteAutolinkWith o c wb := by
  cases F
  case autolink | relaxedAutolinks => site_simp h [siteAutolinkWith]
  all_goals rfl

/-- The footnote attempt of `handle_close_bracket` depends on `footnotes` only when the text after the
    opening bracket starts with a trigger of it (`^`). -/
theorem site_inert_close_bracket_footnote (o : Opts) (F : Feature) (a : Option UInt8)
    (h : ∀ c, a = some c → trigger F c = false) :
    siteCloseBracketFootnote (o.enable F) a = siteCloseBracketFootnote o a := by
  cases a with
  | none => simp [siteCloseBracketFootnote]
  | some c =>
    have hc := h c rfl
    cases F
    case footnotes => site_simp hc [siteCloseBracketFootnote, Option.some_beq_some]
    all_goals rfl

theorem site_inert_block_quote_start (o : Opts) (F : Feature) (ind : Bool) (c0 c1 : UInt8)
    (h : trigger F c0 = false) :
    siteBlockQuoteStart (o.enable F) ind c0 c1 = siteBlockQuoteStart o ind c0 c1 := by
  cases F
  case greentext => site_simp h [siteBlockQuoteStart]
  all_goals rfl

theorem site_inert_alert (o : Opts) (F : Feature) (ind : Bool) (c0 : UInt8) (s : Bool) (f : Nat)
    (h : trigger F c0 = false) :
    siteAlert (o.enable F) ind c0 s f = siteAlert o ind c0 s f := by
  cases F
  case alerts | multilineBlockQuotes => site_simp h [siteAlert]
  all_goals rfl

theorem site_inert_multiline_block_quote (o : Opts) (F : Feature) (ind : Bool) (rest : Bytes)
    (h : ∀ c, rest.head? = some c → trigger F c = false) :
    siteMultilineBlockQuote (o.enable F) ind rest = siteMultilineBlockQuote o ind rest := by
  cases hs : scanMultilineFence rest with
  | none => simp [siteMultilineBlockQuote, hs]
  | some n =>
    have hc := h _ (scanMultilineFence_needs_gt rest n hs)
    cases F
    case multilineBlockQuotes => exact absurd hc (by decide)
    all_goals rfl

/-- The footnote definition opener: `scanners::footnote_definition` needs `[^`, so on a line without
    `^` the outcome does not depend on `footnotes`. -/
theorem site_inert_footnote_definition (o : Opts) (F : Feature) (ind dOk : Bool) (rest : Bytes)
    (h : triggerFree F rest = true) :
    siteFootnoteDefinition (o.enable F) ind dOk rest = siteFootnoteDefinition o ind dOk rest := by
  cases hs : scanFootnoteDefinition rest with
  | none => simp [siteFootnoteDefinition, hs]
  | some n =>
    have hc := triggerFree_iff.mp h _ (scanFootnoteDefinition_needs_caret rest n hs)
    cases F
    case footnotes => exact absurd hc (by decide)
    all_goals rfl

/-- Full-strength statement for the description list opener: false (next theorem). -/
def site_inert_description_list_full : Prop :=
  ∀ (o : Opts) (F : Feature) (ind : Bool) (rest : Bytes) (dOk : Bool), triggerFree F rest = true →
    siteDescriptionList (o.enable F) ind rest dOk = siteDescriptionList o ind rest dOk

/-- `description_item_start` also accepts `~` as the details marker, which the option does not document:
    the line `~ b` has no `:` and still opens a description item. -/
theorem site_inert_description_list_counterexample : ¬ site_inert_description_list_full := by
  intro h
  have := h {} .descriptionLists false [0x7E, 0x20, 0x62] true (by decide)
  revert this
  decide

/-- What does hold: off the undocumented `~` marker the opener is inert. -/
theorem site_inert_description_list_partial (o : Opts) (F : Feature) (ind : Bool) (rest : Bytes) (dOk : Bool)
    (h : triggerFree F rest = true) (hn : rest.head? ≠ some 0x7E) :
    siteDescriptionList (o.enable F) ind rest dOk = siteDescriptionList o ind rest dOk := by
  cases hs : scanDescriptionItemStart rest with
  | none => simp [siteDescriptionList, hs]
  | some n =>
    have hc : trigger F 0x3A = false := by
      cases rest with
      | nil => simp [scanDescriptionItemStart] at hs
      | cons c r =>
        have h7 : c ≠ 0x7E := by simpa using hn
        by_cases h3 : c = 0x3A
        · exact h3 ▸ triggerFree_iff.mp h c (List.mem_cons_self ..)
        · simp [scanDescriptionItemStart, h3, h7] at hs
    cases F
    case descriptionLists => exact absurd hc (by decide)
    all_goals rfl

/-- The table alternative of `open_new_blocks`, under two facts it does not establish itself:
    `table_start` only matches a line containing `-` (scanner fact), and no table is open (no table was
    ever created on trigger-free input). -/
theorem site_inert_table_open (o : Opts) (F : Feature) (v : TableView) (line : Bytes)
    (h : triggerFree F line = true) (hs : v.startMatches = true → (0x2D : UInt8) ∈ line)
    (hk : v.kind ≠ .table) :
    siteTableOpen (o.enable F) v = siteTableOpen o v := by
  cases F
  case table =>
    have hsm : v.startMatches = false := by
      cases hv : v.startMatches with
      | false => rfl
      | true => exact absurd (triggerFree_iff.mp h _ (hs hv)) (by decide)
    rw [siteTableOpen_stop _ v hsm hk, siteTableOpen_stop _ v hsm hk]
  all_goals rfl

/-- Full-strength statement for the lazy-continuation clause: false (next theorem). -/
def site_inert_lazy_full : Prop :=
  ∀ (o : Opts) (F : Feature) (v : LazyView) (line : Bytes), triggerFree F line = true →
    siteLazyContinuation (o.enable F) v = siteLazyContinuation o v

/-- `greentext` is consulted in `add_text_to_container` without looking at any byte of the line: with
    the document (or a block quote) as last matched container, lazy continuation is switched off on a
    line that has no `>` (here the line is `y`, as in `[^a]: x` / `y` under footnotes). -/
theorem site_inert_lazy_greentext_counterexample : ¬ site_inert_lazy_full := by
  intro h
  have := h {} .greentext
    { currentIsLastMatched := false, containerIsLastMatched := true, blank := false,
      container := .document, currentIsParagraph := true } [0x79] (by decide)
  revert this
  decide

/-- What does hold: every other feature is inert at this clause, and greentext is inert when the last
    matched container is neither the document nor a block quote. -/
theorem site_inert_lazy_partial (o : Opts) (F : Feature) (v : LazyView)
    (h : F ≠ .greentext ∨ (v.container ≠ .document ∧ v.container ≠ .blockQuote)) :
    siteLazyContinuation (o.enable F) v = siteLazyContinuation o v := by
  cases F
  case greentext =>
    rcases h with hF | ⟨h1, h2⟩
    · exact absurd rfl hF
    · simp [siteLazyContinuation, beq_eq_false_iff_ne.mpr h1, beq_eq_false_iff_ne.mpr h2]
  all_goals rfl

/-- `process_footnotes` changes nothing when no definition and no reference node exists. -/
theorem site_inert_process_footnotes (o : Opts) (F : Feature) :
    siteProcessFootnotes (o.enable F) 0 0 = siteProcessFootnotes o 0 0 := by
  simp [siteProcessFootnotes]

/-- The task list pass looks at node text; it depends on `tasklist` / `relaxed_tasklist_matching` only
    when that text contains `[`.  (Node text is the text after entity decoding: see the known finding.) -/
theorem site_inert_tasklist (o : Opts) (F : Feature) (text : Bytes) (h : triggerFree F text = true) :
    siteTasklist (o.enable F) text = siteTasklist o text := by
  cases hs : scanTasklist text with
  | none => simp [siteTasklist, hs]
  | some s =>
    have hc := triggerFree_iff.mp h _ (scanTasklist_needs_bracket text s hs)
    cases F
    case tasklist | relaxedTasklistMatching => exact absurd hc (by decide)
    all_goals rfl

theorem site_inert_email_autolink (o : Opts) (F : Feature) (text : Bytes) (h : triggerFree F text = true) :
    siteEmailAutolink (o.enable F) text = siteEmailAutolink o text := by
  cases hm : text.contains 0x40 with
  | false =>
    have : (0x40 : UInt8) ∉ text := by simpa using hm
    simp [siteEmailAutolink, this]
  | true =>
    have hc := triggerFree_iff.mp h 0x40 (by simpa using hm)
    cases F
    case autolink | relaxedAutolinks => exact absurd hc (by decide)
    all_goals rfl

/-- A document that does not start with the delimiter (in particular one without `-`) is untouched. -/
theorem site_inert_front_matter (o : Opts) (F : Feature) :
    siteFrontMatter (o.enable F) false = siteFrontMatter o false := by
  simp [siteFrontMatter]

example : trigger .strikethrough 0x3D = false ∧ triggerFree .table [0x61, 0x7E, 0x62] = true := by decide
example : special ({} : Opts) 0x7E = false ∧ special (({} : Opts).enable .strikethrough) 0x7E = true := by
  decide +kernel
example : arm {} false 0x7E = .text ∧ arm (({} : Opts).enable .subscript) false 0x7E = .tilde := by decide
example : siteBlockQuoteStart {} false 0x3E 0x61 = true
    ∧ siteBlockQuoteStart (({} : Opts).enable .greentext) false 0x3E 0x61 = false := by decide
example : siteFootnoteDefinition (({} : Opts).enable .footnotes) false true [0x5B, 0x5E, 0x61, 0x5D, 0x3A, 0x20, 0x78] = some 6 := by
  decide
example : siteTasklist (({} : Opts).enable .tasklist) [0x5B, 0x78, 0x5D, 0x20, 0x61] = some 0x78 := by decide
example : findSpecialChar {} false [0x61, 0x7E, 0x2A] 0 = 2
    ∧ findSpecialChar (({} : Opts).enable .strikethrough) false [0x61, 0x7E, 0x2A] 0 = 1 := by decide +kernel

end Comrak.C13
