/-
C15  Footnote links and heading anchors are referentially intact.

Anchors: `anchorLoop`/`anchorize` of Comrak/Html.lean (src/html/anchorizer.rs) - full strength, for
every normalisation table, every set of issued anchors and every list of heading texts.
Footnotes: `processFootnotes` of Comrak/Footnotes.lean (the parser's pass, tied to the real pass node
for node by the harness) - numbering in first-reference order is proved for every tree and label
normaliser; the clauses the real pass violates are refuted by `decide` witnesses on the model
(each reproduced on the real code by the harness and listed in known_findings.json).
-/
import Comrak.Lemmas.Anchor
import Comrak.Lemmas.AnchorMemo
import Comrak.Lemmas.Footnotes
import Comrak.Lemmas.FootnotesGen
namespace Comrak.C15
open Comrak Bytes

/-- The uniqueness loop always finds a candidate within `issued.length + 1` tries (pigeonhole over the
    pairwise different candidates `id, id-1, id-2, ...`). -/
theorem anchorLoop_some (issued : List Bytes) (id : Bytes) :
    ∃ a, anchorLoop issued id (issued.length + 1) 0 = some a :=
  let ⟨_, h, _⟩ := anchorLoop_spec issued id
  ⟨_, h⟩

/-- The decimal suffixes are injective, so the candidates are pairwise different. -/
theorem candidates_injective (id : Bytes) (j k : Nat) (h : anchorCand id j = anchorCand id k) : j = k :=
  anchorCand_injective id h

/-- What the loop returns: the first candidate that was not issued before. -/
theorem anchorLoop_first_unused (issued : List Bytes) (id a : Bytes)
    (h : anchorLoop issued id (issued.length + 1) 0 = some a) :
    a ∉ issued ∧ ∃ k, a = anchorCand id k ∧ ∀ j, j < k → anchorCand id j ∈ issued := by
  obtain ⟨u, hu, _, h1, h2⟩ := anchorLoop_spec issued id
  cases hu.symm.trans h
  exact ⟨h1, u, rfl, h2⟩

/-- The returned anchor was not issued before, and it is recorded as issued. -/
theorem anchorize_fresh (nt : NormTable) (issued : List Bytes) (header : Bytes) :
    (anchorize nt issued header).1 ∉ issued ∧
    (anchorize nt issued header).2 = (anchorize nt issued header).1 :: issued := by
  obtain ⟨u, e, h1, _⟩ := anchorize_eq nt issued header
  rw [e]
  exact ⟨h1, rfl⟩

/-- The anchor is the normalised text itself unless that was issued already, and then the smallest free `-N`. -/
theorem anchorize_smallest_suffix (nt : NormTable) (issued : List Bytes) (header : Bytes) :
    ∃ k, (anchorize nt issued header).1 = anchorCand (nt.norm header) k ∧
         ∀ j, j < k → anchorCand (nt.norm header) j ∈ issued := by
  obtain ⟨u, e, _, h2⟩ := anchorize_eq nt issued header
  exact ⟨u, by rw [e], h2⟩

/-- **Heading anchors are pairwise distinct**: for every normalisation table and every list of heading
    texts (duplicates, texts that collide after normalisation or with generated `-N` suffixes). -/
theorem anchors_pairwise_distinct : ∀ (nt : NormTable) (hs : List Bytes), (anchorizeAll nt hs).Nodup :=
  fun nt hs => (anchorizeFrom_spec nt hs []).2

example : anchorizeAll {} [[0x61], [0x41], [0x61, 0x2D, 0x31], [0x61, 0x20, 0x31], [0x61]] =
    [[0x61], [0x61, 0x2D, 0x31], [0x61, 0x2D, 0x31, 0x2D, 0x31], [0x61, 0x2D, 0x31, 0x2D, 0x32], [0x61, 0x2D, 0x32]] := by decide +kernel

/-- **Footnotes are numbered 1, 2, 3, ... in order of first reference** (document order of the tree the pass
    walks, references inside definitions included): for every label normaliser, definition table and forest. -/
theorem ix_is_1_to_n_in_first_ref_order (N : LabelNorm) (D : DefTab) (f : Forest) (h : leafRefsF f = true) :
    firstRefOrder 0 (ixsOf (allRefsF (numberF N D f {}).1)) = true := by
  have := emitKeys_order D (resKeysF N D f) {} []
  rw [List.append_nil] at this
  rw [(numberF_keys N D f {} h).2]
  exact this

/-- An unresolved reference is rewritten to its literal text and nothing else changes. -/
theorem unresolved_stay_text (N : LabelNorm) (D : DefTab) (st : NSt) (label : Bytes)
    (h : D.get? (N.fold label) = none) :
    stepRef N D st label = (.text ([0x5B, 0x5E] ++ label ++ [0x5D]), st) :=
  stepRef_none st h

/-- On a clean document (case variants, a reference inside a live definition, an unresolved name) every
    clause holds of the pass's output - the oracles are satisfiable. -/
theorem clean_document_intact :
    let t' := processFootnotes asciiNorm W.clean
    refsPointOk asciiNorm t' = true ∧ defsOnceOk t' = true ∧ refNumsOk t' = true ∧
    unreferencedOmittedOk t' = true ∧ backrefsMatch (renderToks {} {} t') = true ∧
    rootDefs t' = [([0x41], 3), ([0x62], 1)] := by decide +kernel

/-- `ref_nums_1_to_total` fails when a reference sits in a definition that is dropped: the dropped
    reference is counted. -/
theorem ref_nums_1_to_total_counterexample :
    leafRefsT W.discarded = true ∧ refNumsOk (processFootnotes asciiNorm W.discarded) = false := by decide +kernel

/-- ... and at HTML level the definition then links back to an id that does not exist (`fnref-a-2`). -/
theorem backrefs_match_refs_counterexample :
    let ts := renderToks {} {} (processFootnotes asciiNorm W.discarded)
    backrefsMatch ts = false ∧
    tokBackHrefs ts = [S.v_fnref ++ [0x61], S.v_fnref ++ [0x61, 0x2D, 0x32]] ∧ tokRefIds ts = [S.v_fnref ++ [0x61]] := by decide +kernel

/-- The ids of references are not pairwise distinct: `a` referenced twice and a footnote named `a-2`. -/
theorem ref_ids_distinct_counterexample :
    ¬ (tokRefIds (renderToks {} {} (processFootnotes asciiNorm W.suffix))).Nodup := by decide +kernel

/-- `unreferenced_omitted` fails for a definition nested in a definition: it is not found by the first
    walk, stays inside its parent and is rendered although nothing refers to it. -/
theorem unreferenced_omitted_counterexample :
    unreferencedOmittedOk (processFootnotes asciiNorm W.nested) = false ∧
    backrefsMatch (renderToks {} {} (processFootnotes asciiNorm W.nested)) = false := by decide +kernel

/-- `defs_rendered_once` fails with a nested definition that repeats a name: `fn-b` is rendered twice. -/
theorem defs_rendered_once_counterexample :
    defsOnceOk (processFootnotes asciiNorm W.nestedDup) = false ∧
    ¬ (tokDefIds (renderToks {} {} (processFootnotes asciiNorm W.nestedDup))).Nodup := by decide +kernel

/-- Witness of a repaired defect: when label normalisation is not idempotent (a label starting with
    U+00A0) the pinned tree gave the reference `keep (keep label)` and the definition `keep label`;
    since /repo commit dbda91a the reference copies the stored name, and the clause holds on the witness. -/
theorem refs_point_to_rendered_def_after_fix :
    refsPointOk ⟨id, id⟩ (processFootnotes nbspNorm W.nbsp) = true := by decide

/-! ## Footnotes: the remaining clauses, for every tree and label normaliser, outside the defect classes

Hypotheses (decidable predicates on the input tree, Lemmas/FootnotesGen.lean):
* `rootPlain t`      - the root is neither a definition (the pass returns such a tree unchanged) nor a reference;
* `leafRefsT t`      - reference nodes are leaves (true of every tree the inline parser builds);
* `noNestedDefs t`   - no definition nested in a definition (known finding C15-nested-def);
* `noRefInDropped N t` - no *resolvable* reference inside a definition that is dropped, i.e. shadowed by a later
                       definition with the same folded label or not referenced at all (C15-ref-in-discarded-def);
* `labelsCompat N t` - on the definitions' labels `keep`-equal implies `fold`-equal (a condition on the normaliser
                       parameter; true of `normalize_label`).
Idempotence of `N.keep` is NOT needed since /repo commit dbda91a (the reference copies the stored name). -/

/-- **Every reference points to a rendered definition**: it carries `ix ≥ 1` and the name of the `ix`-th
    definition under the root - for every tree with leaf references and every normaliser; in particular also with
    nested definitions, references in dropped definitions and non-idempotent label normalisation. -/
theorem refs_point_to_rendered_def_partial (N : LabelNorm) (t : Tree)
    (hr : rootPlain t = true) (hl : leafRefsT t = true) :
    refsPointOk N (processFootnotes N t) = true := by
  simp only [refsPointOk, List.all_eq_true]
  intro r hrm
  obtain ⟨k, hk, hname, hix⟩ :
      ∃ k, k ∈ (fnFin N t).seen ∧ r.1 = nameOf (fnD N t) k ∧ r.2.2 = (fnFin N t).seen.idxOf k + 1 :=
    emitKeys_point (fnD N t) _ _ r (out_refs_sub N t hr hl r hrm)
  have hlt := List.idxOf_lt_length_of_mem hk
  rw [out_rootDefs N t hr hl, hix]
  simp only [Nat.add_sub_cancel, List.getElem?_map, List.getElem?_eq_getElem hlt, List.getElem_idxOf hlt,
    Option.map_some, hname, beq_self_eq_true, Bool.and_true, decide_eq_true_eq]
  omega

/-- **No definition name is rendered twice.** -/
theorem defs_rendered_once_partial (N : LabelNorm) (t : Tree)
    (hr : rootPlain t = true) (hl : leafRefsT t = true) (hn : noNestedDefs t = true)
    (hc : labelsCompat N t = true) :
    defsOnceOk (processFootnotes N t) = true := by
  simp only [defsOnceOk, decide_eq_true_eq]
  rw [out_allDefs_root N t hr hl hn, out_rootDefs N t hr hl, List.map_map, List.Nodup, List.pairwise_map]
  refine List.Pairwise.imp_of_mem ?_ (fnSeen_nodup N t)
  intro k1 k2 h1 h2 hne hname
  apply hne
  obtain ⟨s1, d1, a1, b1, c1, e1⟩ := fnSlot N t k1 h1
  obtain ⟨s2, d2, a2, b2, c2, e2⟩ := fnSlot N t k2 h2
  simp only [Function.comp, nameOf, a1, a2, e1, e2] at hname
  simp only [labelsCompat, List.all_eq_true, List.mem_map, forall_exists_index, and_imp,
    forall_apply_eq_imp_iff₂] at hc
  have := hc d1 (List.mem_of_getElem? b1) d2 (List.mem_of_getElem? b2)
  simp only [hname, bne_self_eq_false, Bool.false_or, beq_iff_eq] at this
  rw [c1, c2, this]

/-- **The references to the `i`-th rendered definition carry the `ref_num`s `1 .. total_references`, each once.** -/
theorem ref_nums_1_to_total_partial (N : LabelNorm) (t : Tree)
    (hr : rootPlain t = true) (hl : leafRefsT t = true) (hd : noRefInDropped N t = true) :
    refNumsOk (processFootnotes N t) = true := by
  simp only [refNumsOk, List.all_eq_true]
  intro ⟨d, i⟩ hmem
  obtain ⟨_, hp⟩ := out_nums_perm N t hr hl hd d i hmem
  simp only [Bool.and_eq_true, beq_iff_eq, List.all_eq_true, List.contains_iff_mem]
  exact ⟨by rw [hp.length_eq, List.length_range'], fun x hx => hp.mem_iff.mpr hx⟩

/-- **Unreferenced definitions are omitted**: every definition in the output is one of the numbered definitions
    under the root, and each of those is referenced from the output. -/
theorem unreferenced_omitted_partial (N : LabelNorm) (t : Tree)
    (hr : rootPlain t = true) (hl : leafRefsT t = true) (hn : noNestedDefs t = true)
    (hd : noRefInDropped N t = true) :
    unreferencedOmittedOk (processFootnotes N t) = true := by
  simp only [unreferencedOmittedOk, Bool.and_eq_true, List.all_eq_true]
  constructor
  · intro ⟨d, i⟩ hmem
    -- the definition is referenced, so `ref_num` 1 is among the numbers handed out for it
    obtain ⟨hpos, hp⟩ := out_nums_perm N t hr hl hd d i hmem
    obtain ⟨r, hrf, _⟩ := List.mem_map.mp (hp.mem_iff.mpr (List.mem_range'.mpr ⟨0, hpos, rfl⟩))
    exact List.any_eq_true.mpr ⟨r, (List.mem_filter.mp hrf).1, (List.mem_filter.mp hrf).2⟩
  · rw [noStrayDefs, out_allDefs_root N t hr hl hn, beq_self_eq_true]

/-- The output, explicitly: the rendered definitions are the numbered keys in `ix` order, each with the stored
    name of its slot and the number of resolvable references to it in the whole input. -/
theorem rendered_defs_are_numbered_keys (N : LabelNorm) (t : Tree)
    (hr : rootPlain t = true) (hl : leafRefsT t = true) :
    rootDefs (processFootnotes N t) =
      (fnFin N t).seen.map fun k => (nameOf (fnD N t) k, (fnKeys N t).count k) :=
  out_rootDefs N t hr hl

/-! Non-vacuity: a tree with case variants, a reference inside a live definition, an unresolved name, a definition
    shadowed by a later duplicate (holding an unresolvable reference) and an unreferenced definition satisfies
    every hypothesis. -/
example : rootPlain W.clean2 = true ∧ leafRefsT W.clean2 = true ∧ noNestedDefs W.clean2 = true ∧
    noRefInDropped asciiNorm W.clean2 = true ∧ labelsCompat asciiNorm W.clean2 = true := by decide +kernel
example : rootDefs (processFootnotes asciiNorm W.clean2) = [([0x41], 3), ([0x62], 1)] ∧
    allRefsT (processFootnotes asciiNorm W.clean2) =
      [([0x41], 1, 1), ([0x62], 1, 2), ([0x41], 2, 1), ([0x41], 3, 1)] := by decide +kernel
example : refNumsOk (processFootnotes asciiNorm W.clean2) = true :=
  ref_nums_1_to_total_partial _ _ (by decide +kernel) (by decide +kernel) (by decide +kernel)
example : rootPlain W.clean = true ∧ leafRefsT W.clean = true ∧ noNestedDefs W.clean = true ∧
    noRefInDropped asciiNorm W.clean = true ∧ labelsCompat asciiNorm W.clean = true := by decide +kernel

/-- `noRefInDropped` is what fails on the witness of `ref_nums_1_to_total_counterexample`
    (all other hypotheses hold there). -/
theorem noRefInDropped_needed_for_ref_nums :
    rootPlain W.discarded = true ∧ leafRefsT W.discarded = true ∧ noNestedDefs W.discarded = true ∧
    labelsCompat asciiNorm W.discarded = true ∧ noRefInDropped asciiNorm W.discarded = false ∧
    refNumsOk (processFootnotes asciiNorm W.discarded) = false := by decide +kernel

/-- ... and for `unreferenced_omitted`: a definition referenced only from a dropped definition is rendered
    without any reference in the output. -/
theorem noRefInDropped_needed_for_unreferenced :
    rootPlain W.onlyFromDropped = true ∧ leafRefsT W.onlyFromDropped = true ∧ noNestedDefs W.onlyFromDropped = true ∧
    labelsCompat asciiNorm W.onlyFromDropped = true ∧ noRefInDropped asciiNorm W.onlyFromDropped = false ∧
    unreferencedOmittedOk (processFootnotes asciiNorm W.onlyFromDropped) = false := by decide +kernel

/-- `noNestedDefs` is what fails on the witnesses of `unreferenced_omitted_counterexample` and
    `defs_rendered_once_counterexample`. -/
theorem noNestedDefs_needed :
    (rootPlain W.nested = true ∧ leafRefsT W.nested = true ∧ noRefInDropped asciiNorm W.nested = true ∧
      labelsCompat asciiNorm W.nested = true ∧ noNestedDefs W.nested = false ∧
      unreferencedOmittedOk (processFootnotes asciiNorm W.nested) = false) ∧
    (rootPlain W.nestedDup = true ∧ leafRefsT W.nestedDup = true ∧ noRefInDropped asciiNorm W.nestedDup = true ∧
      labelsCompat asciiNorm W.nestedDup = true ∧ noNestedDefs W.nestedDup = false ∧
      defsOnceOk (processFootnotes asciiNorm W.nestedDup) = false) := by decide +kernel

/-- `labelsCompat`: with a normaliser whose preserved form identifies labels that the folded form
    distinguishes, two footnotes are rendered under one name. -/
theorem labelsCompat_needed :
    rootPlain W.two = true ∧ leafRefsT W.two = true ∧ noNestedDefs W.two = true ∧
    noRefInDropped constKeepNorm W.two = true ∧ labelsCompat constKeepNorm W.two = false ∧
    defsOnceOk (processFootnotes constKeepNorm W.two) = false := by decide +kernel

/-- `leafRefsT`: below an unresolvable reference node the pass does not look; a reference there keeps `ix = 0`. -/
theorem leafRefs_needed :
    rootPlain W.leafBad = true ∧ leafRefsT W.leafBad = false ∧
    refsPointOk asciiNorm (processFootnotes asciiNorm W.leafBad) = false := by decide

/-- `rootPlain`: a tree whose root is a definition is returned unchanged. -/
theorem rootPlain_needed :
    rootPlain W.rootDef = false ∧ leafRefsT W.rootDef = true ∧
    refsPointOk asciiNorm (processFootnotes asciiNorm W.rootDef) = false := by decide

/-- Idempotence of `keep` is not among the hypotheses: the witness of the repaired defect satisfies them. -/
example : rootPlain W.nbsp = true ∧ leafRefsT W.nbsp = true ∧ noNestedDefs W.nbsp = true ∧
    noRefInDropped nbspNorm W.nbsp = true ∧ labelsCompat nbspNorm W.nbsp = true := by decide

/-! ## Heading anchors: the code as it is (memoised `Anchorizer`, /repo commit 70a0ef9)

`anchorizeMemo` (Comrak/Anchor.lean) follows `Anchorizer::anchorize` with its `HashMap<String, usize>` statement by
statement and is what the driver's `anchors` command runs against the real `Anchorizer`.  The theorems below
show that it refines the set-based `anchorize` above, so everything proved of that specification holds of the
code as it is, and that its probes are linear in the number of headings where the set-based loop (the code
before the repair) is quadratic. -/

/-- The empty map and the empty set are related (a fresh `Anchorizer`). -/
theorem memoInv_empty : MemoInv [] [] :=
  ⟨fun k => by simp [AnchorMap.containsKey, AnchorMap.get], fun k v h => nomatch h⟩

/-- `MemoInv m issued`, spelled out: the keys of the map are the issued anchors, and for a key `k` with stored
    counter `v` all of `k`, `k-1`, ..., `k-(v-1)` are keys. -/
theorem memoInv_iff (m : AnchorMap) (issued : List Bytes) :
    MemoInv m issued ↔
      (∀ k, m.containsKey k = true ↔ k ∈ issued) ∧
      (∀ k v, m.get k = some v → ∀ j, j < v → m.containsKey (anchorCand k j) = true) :=
  ⟨fun h => ⟨h.keys, h.taken⟩, fun h => ⟨h.1, h.2⟩⟩

/-- **The memoised `anchorize` refines the set-based one**: from related states it returns the same anchor, and
    the new states are related again. -/
theorem anchorizeMemo_refines (nt : NormTable) (m : AnchorMap) (issued : List Bytes) (header : Bytes)
    (h : MemoInv m issued) :
    (anchorizeMemo nt m header).1 = (anchorize nt issued header).1 ∧
    MemoInv (anchorizeMemo nt m header).2 (anchorize nt issued header).2 := by
  obtain ⟨u, e1, e2, _, hb⟩ := anchorizeMemo_step nt m issued header h
  rw [e1, e2]
  exact ⟨rfl, h.step _ u hb⟩

/-- Whole heading sequences from related states: the same list of anchors. -/
theorem anchorizeMemoFrom_refines (nt : NormTable) (m : AnchorMap) (issued : List Bytes) (hs : List Bytes)
    (h : MemoInv m issued) : anchorizeMemoFrom nt m hs = anchorizeFrom nt issued hs := by
  induction hs generalizing m issued with
  | nil => rfl
  | cons x hs ih =>
    obtain ⟨h1, h2⟩ := anchorizeMemo_refines nt m issued x h
    rw [anchorizeMemoFrom, anchorizeFrom, h1, ih _ _ h2]

/-- **One fresh `Anchorizer` as it is issues exactly the anchors of the specification**, for every
    normalisation table and every list of heading texts. -/
theorem anchorizeMemoAll_eq_spec (nt : NormTable) (hs : List Bytes) : anchorizeMemoAll nt hs = anchorizeAll nt hs :=
  anchorizeMemoFrom_refines nt [] [] hs memoInv_empty

/-- **Heading anchors of the code as it is are pairwise distinct.** -/
theorem anchors_pairwise_distinct_memo (nt : NormTable) (hs : List Bytes) : (anchorizeMemoAll nt hs).Nodup := by
  rw [anchorizeMemoAll_eq_spec]
  exact anchors_pairwise_distinct nt hs

/-- The anchor the code returns was not a key, and it is the normalised text itself unless that is a key, and
    then the one with the smallest free `-N` (although the loop starts at the stored counter, not at 0). -/
theorem anchorizeMemo_fresh_smallest (nt : NormTable) (m : AnchorMap) (issued : List Bytes) (header : Bytes)
    (h : MemoInv m issued) :
    m.containsKey (anchorizeMemo nt m header).1 = false ∧
    ∃ k, (anchorizeMemo nt m header).1 = anchorCand (nt.norm header) k ∧
         ∀ j, j < k → m.containsKey (anchorCand (nt.norm header) j) = true := by
  obtain ⟨u, _, e2, hf, hb⟩ := anchorizeMemo_step nt m issued header h
  rw [e2]
  refine ⟨?_, u, rfl, fun j hj => (h.keys _).mpr (hb j hj)⟩
  cases hc : m.containsKey (anchorCand (nt.norm header) u) with
  | false => rfl
  | true => exact absurd ((h.keys _).mp hc) hf

/-- From any reachable state: the potential plus the probes for `hs` are at most twice the anchors issued at the end. -/
theorem anchorize_memo_linear_from (nt : NormTable) (m : AnchorMap) (issued : List Bytes) (hs : List Bytes)
    (h : MemoInv m issued) (hw : m.WF) :
    m.valSum + memoProbesFrom nt m hs ≤ 2 * (issued.length + hs.length) := by
  obtain ⟨i', a1, a2, a3⟩ := memoStateFrom_inv nt hs m issued h hw
  rw [← memoProbes_potential, ← a3]
  exact valSum_le _ _ a1 a2

/-- **The probes of the memoised loop are linear**: over any sequence of `n` headings one fresh `Anchorizer`
    makes at most `2n` `contains_key` probes in total (each probe either ends a call or advances a stored
    counter over a taken candidate, and an issued anchor is such a candidate at most twice). -/
theorem anchorize_memo_linear (nt : NormTable) (hs : List Bytes) : memoProbesAll nt hs ≤ 2 * hs.length := by
  have := anchorize_memo_linear_from nt [] [] hs memoInv_empty AnchorMap.wf_nil
  simpa [memoProbesAll, AnchorMap.valSum] using this

/-- One call costs exactly what it adds to the stored counters. -/
theorem anchorize_memo_probes_are_potential (nt : NormTable) (m : AnchorMap) (header : Bytes) :
    (anchorizeMemo nt m header).2.valSum = m.valSum + anchorizeMemoProbes nt m header :=
  anchorizeMemo_probes_potential nt m header

/-- **The set-based loop (the code before the repair) is quadratic**: `n` equal headings cost
    `1 + 2 + ... + n = n(n+1)/2` probes, for every heading text and normalisation table. -/
theorem anchorize_old_quadratic (nt : NormTable) (h : Bytes) (n : Nat) :
    oldProbesAll nt (List.replicate n h) = n * (n + 1) / 2 := by
  have := oldProbesFrom_replicate nt h n 0 [] (by intro j; simp)
  simpa [oldProbesAll] using this

example : anchorizeMemoAll {} [[0x61], [0x41], [0x61, 0x2D, 0x31], [0x61, 0x20, 0x31], [0x61]] =
    [[0x61], [0x61, 0x2D, 0x31], [0x61, 0x2D, 0x31, 0x2D, 0x31], [0x61, 0x2D, 0x31, 0x2D, 0x32], [0x61, 0x2D, 0x32]] := by decide +kernel
/-- `a`, `a`: with `uniq = 0` the second insert overwrites the entry of the first; then `a ↦ 2`, `a-1 ↦ 0`. -/
example : memoStateFrom {} [] [[0x61]] = [([0x61], 1)] ∧
    memoStateFrom {} [] [[0x61], [0x61]] = [([0x61], 2), ([0x61, 0x2D, 0x31], 0)] := by decide
example : ∃ m issued, MemoInv m issued ∧ m = [([0x61], 1)] ∧ issued = [[0x61]] :=
  ⟨_, _, (anchorizeMemo_refines {} [] [] [0x61] memoInv_empty).2, by decide, by decide⟩
example : AnchorMap.WF (memoStateFrom {} [] [[0x61], [0x61]]) :=
  anchorizeMemo_wf _ _ _ (anchorizeMemo_wf _ _ _ AnchorMap.wf_nil)
/-- 8 equal headings: 8 probes as it is, 36 before the repair. -/
example : memoProbesAll {} (List.replicate 8 [0x61]) = 8 ∧ oldProbesAll {} (List.replicate 8 [0x61]) = 36 := by decide +kernel
/-- `a-1 a-2 a-3 a a`: the last call walks over three anchors other headings took (4 probes); 8 ≤ 10 in total. -/
example : memoProbesAll {} [[0x61, 0x2D, 0x31], [0x61, 0x2D, 0x32], [0x61, 0x2D, 0x33], [0x61], [0x61]] = 8 := by decide +kernel

end Comrak.C15
