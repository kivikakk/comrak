/-
C09  XML output is well-formed and mirrors the tree node for node.
The model (Comrak/Xml.lean) covers `format_xml` completely: prolog, all 41 node kinds with their attributes, the
local `escape`, indentation, the Pre/Post traversal.  The oracle `readXml` and the expected element tree `xmlTree`
are in Comrak/XmlLang.lean.  The full statements (`C09_wellformed_full`, `C09_mirrors_full`) hold for every option
vector and every tree in which no literal-kind node has children; the two defects of `format_xml` that refuted
them before they were repaired in /repo (payload of `EscapedTag`, info string of a code block) are kept as test
vectors at the end.
-/
import Comrak.Lemmas.XmlRead
import Comrak.Lemmas.XmlStack
import Comrak.Props.C19
namespace Comrak.C09
open Comrak Bytes

/-- The formatter's private `escape` loop computes the same function as `html::escape`. -/
theorem xml_escape_eq_html_escape (bs : Bytes) : xmlEscape bs = escape bs :=
  xmlEscape_eq bs

/-- Every token starts its line with at most 40 spaces followed by `<` (`min(indent, 40)`),
    whatever the nesting depth. -/
theorem indent_bounded (tok : XTok) :
    ∃ (n : Nat) (rest : Bytes), n ≤ 40 ∧ tok.spell = List.replicate n 0x20 ++ 0x3C :: rest := by
  obtain ⟨rest, h⟩ := spell_indent tok
  exact ⟨min tok.ind maxIndent, rest, Nat.min_le_right _ _, h⟩

/-- **Traversal.** The explicit work-stack machine of `XmlFormatter::format` (Pre/Post items,
    children pushed in reverse, `indent += 2` on entering a node with children and
    `indent -= 2` on leaving it; Comrak/XmlStack.lean) writes exactly the tokens of the
    recursive renderer the other theorems are about; two iterations per node suffice, and the
    subtraction never goes below the value on entry. -/
theorem stack_traversal_eq_recursive (o : XmlOpts) (t : Tree) :
    renderXmlStack o t = renderXmlToks o t :=
  renderXmlStack_eq o t

/-- **Balance, token level.** For every option vector and every tree in which no literal-kind
    node has children (all parsed trees), every start tag is closed in the right order by the
    end tag of the same node and nothing is left open. -/
theorem xml_balanced (o : XmlOpts) (t : Tree) (h : litLeafT t = true) :
    xbalanced (renderXmlToks o t) = true := by
  simp [xbalanced, renderXmlToks, xrun_renderXmlT o t 0 {} [] h]

/-- The hypothesis of `xml_balanced` is needed: a literal node with a child gets its end tag twice. -/
theorem literal_with_children_counterexample :
    litLeafT (.node (.text [0x61]) {} (.cons (.node .softBreak {} .nil) .nil)) = false ∧
    xbalanced (renderXmlToks {} (.node (.text [0x61]) {} (.cons (.node .softBreak {} .nil) .nil))) = false := by
  decide

/-- **Escaping.** Every attribute value the renderer writes is `escape p` of some payload `p`
    (document data go through the escaper; comrak's own words and decimals contain none of
    `& < > "`, so they are their own escape), and every text run is `escape` of the literal.
    Hence no raw `<`, `>`, `"` and no `&` other than at the start of one of the four entities,
    for every tree and every option vector. -/
theorem xml_attr_values_escaped (o : XmlOpts) (t : Tree) :
    ∀ tok ∈ renderXmlToks o t,
      (∀ n v, XAttr.mk n v ∈ tok.attrs → (∃ p, v.spell = escape p) ∧ noActive v.spell = true) ∧
      (∀ l, tok.text = some l → noActive (xmlEscape l) = true) := by
  intro tok htok
  have hg := List.all_eq_true.mp (renderXmlToks_good o t) tok htok
  simp only [tokGood, Bool.and_eq_true] at hg
  refine ⟨?_, ?_⟩
  · intro n v hm
    rw [spell_eq_escape_payload v (attrsGood_mem hg.2 hm).2]
    exact ⟨⟨_, rfl⟩, C19.escape_no_active _⟩
  · intro l _
    rw [xmlEscape_eq]; exact C19.escape_no_active l

/-- **Names.** For every tree and every option vector every element name is legal
    (`[A-Za-z_][A-Za-z0-9_:.-]*`) and every piece written inside a start tag is a
    ` name="value"` attribute with a legal name. -/
theorem xml_names_legal (o : XmlOpts) (t : Tree) :
    ∀ tok ∈ renderXmlToks o t,
      xmlLegalName tok.name = true ∧
      ∀ a ∈ tok.attrs, ∃ n v, a = XAttr.mk n v ∧ xmlLegalName n = true := by
  intro tok htok
  have hg := List.all_eq_true.mp (renderXmlToks_good o t) tok htok
  simp only [tokGood, Bool.and_eq_true] at hg
  refine ⟨hg.1, ?_⟩
  intro a ha
  cases a with
  | mk n v => exact ⟨n, v, rfl, (attrsGood_mem hg.2 ha).1⟩

/-- Full-strength well-formedness: the strict reader accepts the rendering of every tree the
    parser can produce. -/
def C09_wellformed_full : Prop :=
  ∀ (o : XmlOpts) (t : Tree), litLeafT t = true → (readXml (renderXml o t)).isSome = true

/-- Full-strength isomorphism: reading the rendering back gives the element tree of the AST. -/
def C09_mirrors_full : Prop :=
  ∀ (o : XmlOpts) (t : Tree), litLeafT t = true → readXml (renderXml o t) = some (xmlTree o t)

/-- **Lexical level.** The bytes of any list of tokens with legal names and good attribute lists
    lex into exactly the tokens' events (white space between them, one trailing newline). -/
theorem xml_lexes (ts : List XTok) (h : ts.all tokGood = true) (hne : ts ≠ []) :
    lexXml (spellXToks ts) = some (toksEvs [] ts ++ [.text nlB]) :=
  lexXml_spell ts h hne

/-- Every token the renderer writes, for every tree and option vector, satisfies the hypothesis
    of `xml_lexes`: legal element name, attributes with legal pairwise different names and
    escaped values. -/
theorem xml_tokens_lexable (o : XmlOpts) (t : Tree) : (renderXmlToks o t).all tokGood = true :=
  renderXmlToks_good o t

/-- **C09 at byte level.** For every option vector and every tree in which no literal-kind node
    has children (all parsed trees), the strict reader accepts the bytes `format_xml` writes and
    returns exactly the element tree of the AST: one element per node, same kinds, order and
    nesting, every attribute the format carries and every literal, destination, title, label,
    info string and escaped-tag payload recovered byte for byte. -/
theorem xml_mirrors_tree (o : XmlOpts) (t : Tree) (hl : litLeafT t = true) :
    readXml (renderXml o t) = some (xmlTree o t) :=
  readXml_renderXml o t hl

/-- Well-formedness is the weaker half. -/
theorem xml_wellformed (o : XmlOpts) (t : Tree) (hl : litLeafT t = true) :
    (readXml (renderXml o t)).isSome = true := by
  rw [xml_mirrors_tree o t hl]; rfl

theorem C09_mirrors_full_holds : C09_mirrors_full := xml_mirrors_tree
theorem C09_wellformed_full_holds : C09_wellformed_full := xml_wellformed

/-- The hypothesis `litLeafT` of `xml_mirrors_tree` is needed as well: the rendering of a
    literal node with a child carries two end tags and is rejected by the reader. -/
theorem literal_with_children_rejected :
    (readXml (renderXml {} (.node (.text [0x61]) {} (.cons (.node .softBreak {} .nil) .nil)))).isNone = true := by
  decide +kernel

/-- `|a|` with the spoiler extension: Document > Paragraph > EscapedTag("|") > Text("a"). -/
def escapedTagTree : Tree :=
  .node .document {} (.cons (.node .paragraph {} (.cons
    (.node (.escapedTag [0x7C]) {} (.cons (.node (.text [0x61]) {} .nil) .nil)) .nil)) .nil)

/-- Before /repo commit ce28ea3 (`fix: write the payload of an escaped tag as an attribute in
    XML output`) `format_xml` wrote the payload of an `EscapedTag` node verbatim inside the start
    tag (`<escaped_tag|>`), the reader rejected this document and the full statements were
    false.  Since then the payload is the escaped value of the attribute `tag`
    (`<escaped_tag tag="|">`): the document is accepted and read back as the element tree of
    the AST. -/
theorem escapedTag_example :
    litLeafT escapedTagTree = true ∧
    renderXmlToks {} escapedTagTree =
      [.opn 0 XS.e_document [xAttr XS.a_xmlns XS.v_xmlns], .opn 2 XS.e_paragraph [],
       .opn 4 XS.e_escaped_tag [xAttrE XS.a_tag [0x7C]], .leaf 6 XS.e_text [preserveAttr] [0x61],
       .close 4 XS.e_escaped_tag, .close 2 XS.e_paragraph, .close 0 XS.e_document] ∧
    (readXml (renderXml {} escapedTagTree)).isSome = true ∧
    (match readXml (renderXml {} escapedTagTree) with
     | some x => x.beq (xmlTree {} escapedTagTree)
     | none => false) = true := by
  decide +kernel

/-- The same repair on the smallest document, a childless `EscapedTag("|")` as the root: the
    bytes written before it (`<escaped_tag| />`) are rejected by the strict reader, those written
    since (`<escaped_tag tag="|" />`) are accepted.  A hostile payload `"<&>` is accepted too and
    read back exactly. -/
theorem escapedTag_payload_before_fix :
    (readXml (XS.prolog ++ [0x3C] ++ XS.e_escaped_tag ++ [0x7C, 0x20, 0x2F, 0x3E, 0x0A])).isNone = true ∧
    renderXml {} (.node (.escapedTag [0x7C]) {} .nil) =
      XS.prolog ++ [0x3C] ++ XS.e_escaped_tag ++ [0x20] ++ XS.a_tag ++ [0x3D, 0x22, 0x7C, 0x22, 0x20, 0x2F, 0x3E, 0x0A] ∧
    (readXml (renderXml {} (.node (.escapedTag [0x7C]) {} .nil))).isSome = true ∧
    (match readXml (renderXml {} (.node (.escapedTag [0x22, 0x3C, 0x26, 0x3E]) {} .nil)) with
     | some x => x.beq (.elem XS.e_escaped_tag [(XS.a_tag, [0x22, 0x3C, 0x26, 0x3E])] .nil)
     | none => false) = true := by
  decide +kernel

/-- The defect repaired by `fix: escape the code block info string in XML output`: before the
    repair the info string of ```` ```a"b<c ```` was written as comrak's own text (`XVal.lit`),
    and the strict reader rejects that start tag; sent through the escaper (`XVal.esc`), as the repaired code does, it is accepted. -/
theorem info_unescaped_before_fix :
    (readXml (spellXml [.leaf 0 XS.e_code_block
        [.mk XS.a_info (.lit [0x61, 0x22, 0x62, 0x3C, 0x63]), preserveAttr] [0x78, 0x0A]])).isNone = true ∧
    (readXml (spellXml [.leaf 0 XS.e_code_block
        [.mk XS.a_info (.esc [0x61, 0x22, 0x62, 0x3C, 0x63]), preserveAttr] [0x78, 0x0A]])).isSome = true := by
  decide +kernel

/-! Non-vacuity: a concrete tree with hostile payloads in an info string, a title, a label, a
    literal, with sourcepos on: the hypotheses hold, the rendering is read back, and the element
    tree read is the one the AST stands for. -/
def sampleTree : Tree :=
  .node .document ⟨1, 1, 3, 2⟩ (.cons
    (.node (.codeBlock true 0x60 3 0 [0x61, 0x22, 0x62, 0x3C, 0x63] [0x3C, 0x26, 0x3E, 0x0A]) ⟨1, 1, 3, 3⟩ .nil) (.cons
    (.node .paragraph ⟨4, 1, 4, 9⟩ (.cons
      (.node (.link [0x2F, 0x75, 0x22] [0x74, 0x26]) ⟨4, 1, 4, 5⟩ (.cons (.node (.text [0x20, 0x20]) {} .nil) .nil)) (.cons
      (.node (.footnoteReference [0x3C] 1 1) ⟨4, 6, 4, 9⟩ .nil) .nil))) .nil))

example : litLeafT sampleTree = true := by decide
example : (renderXmlToks { sourcepos := true } sampleTree).length = 9 := by decide
example :
    (match readXml (renderXml { sourcepos := true } sampleTree) with
     | some x => x.beq (xmlTree { sourcepos := true } sampleTree)
     | none => false) = true := by
  decide +kernel

end Comrak.C09
