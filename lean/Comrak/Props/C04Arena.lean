/-
C04 (link clause)  "... has mutually consistent parent, child and sibling links ..."

Model: Comrak/ArenaTree.lean, the link-array model of /repo/src/arena_tree.rs (five `Option` links per node,
`detach` / `append` / `prepend` / `insert_after` / `insert_before` statement by statement as in the Rust code).
`Links a` says that the five link fields of every node represent the forest `children a` (what `Node::children()`
iterates): `first_child` / `last_child` are the ends of the child list, `next_sibling` / `previous_sibling` link it
in both directions and end in `None`, every element has the right `parent`, every node with a parent is in that
parent's list, a parentless node has no siblings, no child list repeats a node.

Theorems: every mutator preserves `Links` under its operand condition, and acts on the abstraction as the obvious
list operation.  The tree the parser returns is built from `Node::new` nodes by these five mutators only
(`add_child` = `append`, inline surgery = `insert_before` / `insert_after` / `detach` / `append`), so its links
satisfy `Links` as far as the model corresponds to the code; that correspondence is checked on random operation
sequences by the harness (c04.rs, stage "arena").

Operand conditions (the Rust code does not check them and silently builds an inconsistent structure otherwise):
`c < a.size` (the node exists), for `insert_*` also `x ≠ c` and `x` has a parent (a sibling inserted next to a
parentless node gets `previous_sibling`/`next_sibling` but no parent).  `Links` is about parent/child/sibling
agreement only; that no node becomes its own ancestor is the separate invariant `Acyclic`, preserved when the new
child is neither the new parent nor one of its ancestors (`acyclic_preserved_*`).
-/
import Comrak.Lemmas.ArenaTree
namespace Comrak.C04
open Comrak.ArenaTree

/-- `Node::new` nodes: nothing is linked, every child list is empty. -/
theorem links_fresh (n : Nat) : Links (Arena.fresh n) := by
  have : Repr (Arena.fresh n) (fun _ => []) := by
    refine ⟨?_, ?_, ?_, ?_, ?_, ?_, ?_, ?_, ?_⟩ <;> simp [Arena.fresh, NodeLinks.empty, NextChain, PrevChain]
  exact this.links

/-- `x.detach()` keeps the links consistent (no operand condition). -/
theorem links_preserved_detach {a : Arena} (h : Links a) (x : Nat) : Links (detach a x) :=
  (repr_detach h x).links

/-- `p.append(c)` keeps the links consistent. -/
theorem links_preserved_append {a : Arena} (h : Links a) {p c : Nat} (hc : c < a.size) : Links (append a p c) :=
  (repr_append h hc).links

/-- `p.prepend(c)` keeps the links consistent. -/
theorem links_preserved_prepend {a : Arena} (h : Links a) {p c : Nat} (hc : c < a.size) : Links (prepend a p c) :=
  (repr_prepend h hc).links

/-- `x.insert_after(c)` keeps the links consistent when `x ≠ c` and `x` has a parent. -/
theorem links_preserved_insertAfter {a : Arena} (h : Links a) {x c p : Nat} (hc : c < a.size) (hxc : x ≠ c)
    (hxp : (a.node x).parent = some p) : Links (insertAfter a x c) :=
  (repr_insertAfter h hc hxc hxp).links

/-- `x.insert_before(c)` keeps the links consistent when `x ≠ c` and `x` has a parent. -/
theorem links_preserved_insertBefore {a : Arena} (h : Links a) {x c p : Nat} (hc : c < a.size) (hxc : x ≠ c)
    (hxp : (a.node x).parent = some p) : Links (insertBefore a x c) :=
  (repr_insertBefore h hc hxc hxp).links

/-- The conditions on `insert_after` are needed: `x.insert_after(x)` makes `x` its own sibling. -/
theorem insertAfter_self_counterexample : ¬ Links (insertAfter (append (Arena.fresh 2) 0 1) 1 1) := by
  intro h
  have := (h.root 1 (by decide)).1
  revert this
  decide

/-- ... and next to a parentless node the new sibling gets no parent. -/
theorem insertAfter_root_counterexample : ¬ Links (insertAfter (Arena.fresh 2) 0 1) := by
  intro h
  have := (h.root 1 (by decide)).1
  revert this
  decide

/-- `detach` removes `x` from whatever child list it is in. -/
theorem children_detach {a : Arena} (h : Links a) (x q : Nat) :
    children (detach a x) q = (children a q).erase x :=
  (repr_detach h x).children_eq q

/-- `p.append(c)`: `c` leaves its old list and becomes the last child of `p`. -/
theorem children_append {a : Arena} (h : Links a) {p c : Nat} (hc : c < a.size) (q : Nat) :
    children (append a p c) q = if q = p then (children a p).erase c ++ [c] else (children a q).erase c :=
  (repr_append h hc).children_eq q

/-- `p.prepend(c)`: `c` leaves its old list and becomes the first child of `p`. -/
theorem children_prepend {a : Arena} (h : Links a) {p c : Nat} (hc : c < a.size) (q : Nat) :
    children (prepend a p c) q = if q = p then c :: (children a p).erase c else (children a q).erase c :=
  (repr_prepend h hc).children_eq q

/-- `x.insert_after(c)`: `c` leaves its old list and is put right after `x`. -/
theorem children_insertAfter {a : Arena} (h : Links a) {x c p : Nat} (hc : c < a.size) (hxc : x ≠ c)
    (hxp : (a.node x).parent = some p) (q : Nat) :
    children (insertAfter a x c) q = insertAfterL x c ((children a q).erase c) :=
  (repr_insertAfter h hc hxc hxp).children_eq q

/-- `x.insert_before(c)`: `c` leaves its old list and is put right before `x`. -/
theorem children_insertBefore {a : Arena} (h : Links a) {x c p : Nat} (hc : c < a.size) (hxc : x ≠ c)
    (hxp : (a.node x).parent = some p) (q : Nat) :
    children (insertBefore a x c) q = insertBeforeL x c ((children a q).erase c) :=
  (repr_insertBefore h hc hxc hxp).children_eq q

/-- A node is in the child list of `p` exactly when its `parent` link says `p`. -/
theorem mem_children_iff {a : Arena} (h : Links a) (x p : Nat) :
    x ∈ children a p ↔ (a.node x).parent = some p :=
  h.mem_iff

/-- The parser's `add_child`: appending a parentless (freshly allocated) node. -/
theorem children_append_detached {a : Arena} (h : Links a) {p c : Nat} (hc : c < a.size)
    (hd : (a.node c).parent = none) : children (append a p c) p = children a p ++ [c] := by
  rw [children_append h hc, if_pos rfl, List.erase_of_not_mem]
  intro hm; rw [(mem_children_iff h c p).1 hm] at hd; cases hd

theorem children_prepend_detached {a : Arena} (h : Links a) {p c : Nat} (hc : c < a.size)
    (hd : (a.node c).parent = none) : children (prepend a p c) p = c :: children a p := by
  rw [children_prepend h hc, if_pos rfl, List.erase_of_not_mem]
  intro hm; rw [(mem_children_iff h c p).1 hm] at hd; cases hd

/-! ### the usual local conditions follow from `Links`
(these are also the `debug_assert!`s in `append`, `prepend`, `insert_after`, `insert_before`) -/

/-- `first_child` has parent `p` and no previous sibling (`debug_assert` in `prepend`). -/
theorem first_child_ok {a : Arena} (h : Links a) {p f : Nat} (hf : (a.node p).first = some f) :
    (a.node f).parent = some p ∧ (a.node f).prev = none := by
  obtain ⟨r, hk⟩ := List.head?_eq_some_iff.1 ((h.first p).symm.trans hf)
  have hp := h.prev p; rw [hk] at hp
  exact ⟨h.parent p f (hk ▸ List.mem_cons_self ..), hp.1⟩

/-- `last_child` has parent `p` and no next sibling (`debug_assert` in `append`). -/
theorem last_child_ok {a : Arena} (h : Links a) {p l : Nat} (hl : (a.node p).last = some l) :
    (a.node l).parent = some p ∧ (a.node l).next = none := by
  obtain ⟨r, hk⟩ := List.getLast?_eq_some_iff.1 ((h.last p).symm.trans hl)
  have hn := h.next p; rw [hk, nextChain_append] at hn
  exact ⟨h.parent p l (by rw [hk]; simp), hn.2.1⟩

/-- `first_child` is `None` exactly when `last_child` is (`debug_assert` in the `else` branches). -/
theorem first_none_iff_last_none {a : Arena} (h : Links a) (p : Nat) :
    (a.node p).first = none ↔ (a.node p).last = none := by
  rw [h.first p, h.last p]; simp

/-- `next(x) = y` implies `prev(y) = x`, and both have the same parent (`debug_assert` in `insert_after`). -/
theorem next_prev {a : Arena} (h : Links a) {x y : Nat} (hn : (a.node x).next = some y) :
    (a.node y).prev = some x ∧ (a.node y).parent = (a.node x).parent := by
  cases hp : (a.node x).parent with
  | none => rw [(h.root x hp).2] at hn; cases hn
  | some p =>
    obtain ⟨l1, l2, hk, -, -, hx⟩ := h.around hp
    obtain ⟨r, rfl⟩ := List.head?_eq_some_iff.1 ((headOr_none l2).symm.trans (hx.symm.trans hn))
    have hpc := h.prev p; rw [hk, prevChain_append] at hpc
    exact ⟨hpc.2.2.1, h.parent p y (by rw [hk]; simp)⟩

/-- `prev(x) = y` implies `next(y) = x`, and both have the same parent (`debug_assert` in `insert_before`). -/
theorem prev_next {a : Arena} (h : Links a) {x y : Nat} (hv : (a.node x).prev = some y) :
    (a.node y).next = some x ∧ (a.node y).parent = (a.node x).parent := by
  cases hp : (a.node x).parent with
  | none => rw [(h.root x hp).1] at hv; cases hv
  | some p =>
    obtain ⟨l1, l2, hk, -, hx, -⟩ := h.around hp
    obtain ⟨r, rfl⟩ := List.getLast?_eq_some_iff.1 ((lastOr_none l1).symm.trans (hx.symm.trans hv))
    have hnc := h.next p; rw [hk, nextChain_append, nextChain_append] at hnc
    exact ⟨hnc.1.2.1, h.parent p y (by rw [hk]; simp)⟩

/-- A child without previous sibling is its parent's `first_child` (`debug_assert` in `insert_before`). -/
theorem first_of_prev_none {a : Arena} (h : Links a) {x p : Nat} (hp : (a.node x).parent = some p)
    (hv : (a.node x).prev = none) : (a.node p).first = some x := by
  obtain ⟨l1, l2, hk, -, hx, -⟩ := h.around hp
  rw [hv] at hx
  cases lastOr_eq_none.1 hx.symm
  rw [h.first p, hk]; rfl

/-- A child without next sibling is its parent's `last_child` (`debug_assert` in `insert_after`). -/
theorem last_of_next_none {a : Arena} (h : Links a) {x p : Nat} (hp : (a.node x).parent = some p)
    (hn : (a.node x).next = none) : (a.node p).last = some x := by
  obtain ⟨l1, l2, hk, -, -, hx⟩ := h.around hp
  rw [hn] at hx
  cases headOr_eq_none.1 hx.symm
  rw [h.last p, hk]; simp

/-- A parentless node has no siblings. -/
theorem root_no_siblings {a : Arena} (h : Links a) {x : Nat} (hp : (a.node x).parent = none) :
    (a.node x).prev = none ∧ (a.node x).next = none := h.root x hp

/-- No child list repeats a node (the sibling chain is not a ring). -/
theorem children_nodup {a : Arena} (h : Links a) (p : Nat) : (children a p).Nodup := h.nodup p

theorem acyclic_fresh (n : Nat) : Acyclic (Arena.fresh n) := by
  intro x h
  cases h with
  | step h => simp [Arena.fresh, NodeLinks.empty] at h
  | trans h _ => simp [Arena.fresh, NodeLinks.empty] at h

theorem acyclic_preserved_detach {a : Arena} (h : Acyclic a) (x : Nat) : Acyclic (detach a x) :=
  acyclic_reparent (newp := none) (detach_parent a x) h (fun _ e => by cases e)

/-- `p.append(c)` creates no parent cycle when `c` is neither `p` nor an ancestor of `p`. -/
theorem acyclic_preserved_append {a : Arena} (h : Acyclic a) {p c : Nat} (hpc : p ≠ c) (hanc : ¬ Anc a p c) :
    Acyclic (append a p c) :=
  acyclic_reparent (append_parent a p c) h (fun q e => by cases e; exact ⟨hpc, hanc⟩)

theorem acyclic_preserved_prepend {a : Arena} (h : Acyclic a) {p c : Nat} (hpc : p ≠ c) (hanc : ¬ Anc a p c) :
    Acyclic (prepend a p c) :=
  acyclic_reparent (prepend_parent a p c) h (fun q e => by cases e; exact ⟨hpc, hanc⟩)

/-- `x.insert_after(c)` creates no parent cycle when `c` is neither the parent of `x` nor an ancestor of it. -/
theorem acyclic_preserved_insertAfter {a : Arena} (h : Acyclic a) {x c : Nat} (hxc : x ≠ c)
    (hanc : ∀ p, (a.node x).parent = some p → p ≠ c ∧ ¬ Anc a p c) : Acyclic (insertAfter a x c) :=
  acyclic_reparent (insertAfter_parent a hxc) h hanc

theorem acyclic_preserved_insertBefore {a : Arena} (h : Acyclic a) {x c : Nat} (hxc : x ≠ c)
    (hanc : ∀ p, (a.node x).parent = some p → p ≠ c ∧ ¬ Anc a p c) : Acyclic (insertBefore a x c) :=
  acyclic_reparent (insertBefore_parent a hxc) h hanc

/-- The condition is needed: appending an ancestor below its descendant closes a parent cycle
(the Rust code does this silently; `Links` still holds, `Acyclic` does not). -/
theorem append_ancestor_counterexample : ¬ Acyclic (append (append (Arena.fresh 2) 0 1) 1 0) := by
  intro h
  exact h 0 (Anc.trans (p := 1) (by decide) (Anc.step (by decide)))

/-- The operation sequence of `arena_tree::it_works` (nodes 1..10 of the test are 0..9 here). -/
def itWorks : Arena :=
  let a := Arena.fresh 10
  let a := append a 0 1
  let a := append a 0 2
  let a := prepend a 0 3
  let a := append a 4 0
  let a := insertBefore a 0 5
  let a := insertBefore a 0 6
  let a := insertAfter a 0 7
  let a := insertAfter a 0 8
  let a := append a 4 9
  detach a 7

example : children itWorks 4 = [5, 6, 0, 8, 9] := by decide
example : children itWorks 0 = [3, 1, 2] := by decide
example : Links (append (Arena.fresh 3) 0 1) := links_preserved_append (links_fresh 3) (by decide)
example : children (append (append (Arena.fresh 3) 0 1) 0 2) 0 = [1, 2] := by
  rw [children_append_detached (links_preserved_append (links_fresh 3) (by decide)) (by decide) (by decide),
    children_append_detached (links_fresh 3) (by decide) (by decide)]
  decide

end Comrak.C04
