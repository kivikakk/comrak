/-
C20  Front matter is carried verbatim and never leaks into the document.

`splitOffFrontMatter` models `strings::split_off_front_matter` as of /repo commit d92265f ("fix: recognise
front matter line by line"); the correspondence harness ties it to the real function, exhaustively over
short strings.  For every text and every non-empty delimiter the splitter is characterised in terms of
`lines` (the line splitting of C08): when something is taken, what is taken, that the line-ending
convention does not matter, and how the lines of the rest are numbered.  The renderer half says what the
three formatter models do with the `FrontMatter` node.  Where the code departed from the statement before
d92265f (old function `splitOld`) and before ef24343 (line count), a `_repaired` theorem shows both.
-/
import Comrak.Lemmas.FrontMatter
import Comrak.Lemmas.FrontMatterNode
import Comrak.Lemmas.CmPrefix
namespace Comrak.C20
open Comrak Bytes Comrak.FrontMatter Comrak.Feed

/-- `lines` is the C08 line splitting: the `process_line` calls of `parse_document` (`parseLines`,
    equal to `Feed.splitLines`: `C08.feed_eq_splitLines`) are `lines`, up to the replacement of NUL
    by U+FFFD that the feeder performs on the way. -/
theorem parseLines_eq_lines (s : Bytes) : parseLines s = (lines s).map nulToFFFD :=
  parseLines_map_lines s

/-- ... and any mix of line-ending conventions gives the same lines. -/
theorem lines_any_endings (x : Bytes) : lines (toLf false x) = lines x :=
  rawLines_toLf x [] false

/-- **Soundness.** If the splitter takes a front matter then front matter and rest are the text
    (after an optional BOM), cut at a line boundary; the front matter starts with the delimiter and
    a line ending (LF, CRLF or CR); its lines are the delimiter, lines none of which is the
    delimiter, the delimiter, and then either nothing - and the rest does not start with a blank
    line - or exactly one blank line. -/
theorem split_sound (s d fm rest : Bytes) (hd : d ≠ [])
    (h : splitOffFrontMatter s d = some (fm, rest)) :
    stripBom s = fm ++ rest ∧
    lines (stripBom s) = lines fm ++ lines rest ∧
    (∃ e t, IsEol e ∧ fm = d ++ e ++ t) ∧
    ∃ body, d ∉ body ∧
      ((lines fm = d :: body ++ [d] ∧ (lines rest).head? ≠ some []) ∨
       lines fm = d :: body ++ [d, []]) := by
  obtain ⟨h1, h3, _, hcut⟩ := split_spec s d fm rest h
  obtain ⟨body, hb, h2, hcase⟩ := hcut hd
  exact ⟨h1, h1 ▸ h2, h3, body, hb, hcase⟩

/-- Recognition from the lines alone (no hypothesis on the delimiter). -/
theorem split_isSome_of_lines (s d : Bytes) (body tail : List Bytes)
    (hl : lines (stripBom s) = d :: body ++ d :: tail) :
    (splitOffFrontMatter s d).isSome = true := by
  obtain ⟨c, hc, hs | ⟨e, x, he, hj, hs⟩⟩ := line_cases (stripBom s)
  · -- a text without a line ending has at most one line
    rw [hs, lines_noEol c hc] at hl
    split at hl
    · nomatch hl
    · exact absurd (List.cons.inj hl).2.symm (List.append_ne_nil_of_right_ne_nil _ (List.cons_ne_nil _ _))
  · rw [hs, lines_line c e x hc he hj] at hl
    obtain ⟨rfl, hlx⟩ := List.cons.inj hl
    rw [split_unfold s c e x hs he hj, Option.isSome_map]
    have hspec := closeLoop_spec c ((e ++ x).length + 1) x (by simp; omega)
    cases hr : closeLoop c ((e ++ x).length + 1) x with
    | some p => rfl
    | none =>
      rw [hr] at hspec
      exact absurd (hlx ▸ List.mem_append_right body List.mem_cons_self) hspec

/-- **Completeness.** If the lines of the text (after an optional BOM) are the delimiter, lines
    `body` none of which is the delimiter, the delimiter again and then `tail` - whatever line
    endings the individual lines have, whether or not the last line has one, empty `body`
    included - then the splitter takes exactly the lines `d :: body ++ [d]`, plus the first line
    of `tail` when that is blank, and leaves the remaining lines. -/
theorem split_complete (s d : Bytes) (hd : d ≠ []) (body tail : List Bytes)
    (hl : lines (stripBom s) = d :: body ++ d :: tail) (hb : d ∉ body) :
    ∃ fm rest, splitOffFrontMatter s d = some (fm, rest) ∧ stripBom s = fm ++ rest ∧
      ((lines fm = d :: body ++ [d] ∧ lines rest = tail ∧ tail.head? ≠ some []) ∨
       (lines fm = d :: body ++ [d, []] ∧ [] :: lines rest = tail)) := by
  obtain ⟨⟨fm, rest⟩, hsp⟩ := Option.isSome_iff_exists.mp (split_isSome_of_lines s d body tail hl)
  obtain ⟨h1, h2, _, body', hb', hcase⟩ := split_sound s d fm rest hd hsp
  refine ⟨fm, rest, hsp, h1, ?_⟩
  rw [hl] at h2
  rcases hcase with ⟨hf, hh⟩ | hf
  all_goals
    simp only [hf, List.cons_append, List.nil_append, List.append_assoc, List.cons.injEq, true_and] at h2
    obtain ⟨rfl, rfl⟩ := first_occ_unique d _ _ _ _ h2 hb hb'
  · exact Or.inl ⟨hf, rfl, hh⟩
  · exact Or.inr ⟨hf, rfl⟩

/-- **Recognition, exactly.** Something is taken if and only if the first line is the delimiter
    and a later line is the delimiter. -/
theorem split_recognised_iff (s d : Bytes) (hd : d ≠ []) :
    (splitOffFrontMatter s d).isSome = true ↔
      ∃ body tail, lines (stripBom s) = d :: body ++ d :: tail := by
  constructor
  · intro h
    obtain ⟨⟨fm, rest⟩, hsp⟩ := Option.isSome_iff_exists.mp h
    obtain ⟨_, h2, _, body, _, hcase⟩ := split_sound s d fm rest hd hsp
    rcases hcase with ⟨hf, _⟩ | hf
    · exact ⟨body, lines rest, by rw [h2, hf]; simp⟩
    · exact ⟨body, [] :: lines rest, by rw [h2, hf]; simp⟩
  · rintro ⟨body, tail, hl⟩
    exact split_isSome_of_lines s d body tail hl

/-- Nothing is taken unless the first line and a later line are the delimiter. -/
theorem split_none_of_lines (s d : Bytes) (hd : d ≠ [])
    (h : ¬∃ body tail, lines (stripBom s) = d :: body ++ d :: tail) : splitOffFrontMatter s d = none :=
  Option.not_isSome_iff_eq_none.mp (mt (split_recognised_iff s d hd).mp h)

/-- Not at the very start / opening delimiter not alone on its line: unless the first line of the
    text (after an optional BOM) is the delimiter, nothing is taken. -/
theorem split_none_first_line (s d : Bytes) (hd : d ≠ [])
    (h : (lines (stripBom s)).head? ≠ some d) : splitOffFrontMatter s d = none :=
  split_none_of_lines s d hd fun ⟨_, _, hl⟩ => h (by rw [hl]; rfl)

/-- Unterminated / closing delimiter not alone on its line: unless a later line is the delimiter,
    nothing is taken. -/
theorem split_none_no_closing_line (s d : Bytes) (hd : d ≠ [])
    (h : d ∉ (lines (stripBom s)).tail) : splitOffFrontMatter s d = none :=
  split_none_of_lines s d hd fun ⟨body, _, hl⟩ =>
    h (by rw [hl]; exact List.mem_append_right body List.mem_cons_self)

/-- Byte-level form of "not at the very start". -/
theorem split_none_not_at_start (s d : Bytes) (h : isPrefixB d (stripBom s) = false) :
    splitOffFrontMatter s d = none :=
  split_not_prefix s d h

/-- Byte-level form of "opening delimiter not alone on its line": the delimiter is followed by
    something other than a line ending (or by the end of the input). -/
theorem split_none_open_not_alone (s d t : Bytes) (hs : stripBom s = d ++ t)
    (h : lineEndingLen t = 0) : splitOffFrontMatter s d = none :=
  split_no_eol s d t hs h

/-- Two texts with the same lines (whatever their line endings): if both are split, the parts
    taken have the same lines and the rests have the same lines. -/
theorem split_lines_invariant (s s' d fm rest fm' rest' : Bytes) (hd : d ≠ [])
    (hl : lines (stripBom s) = lines (stripBom s'))
    (h : splitOffFrontMatter s d = some (fm, rest)) (h' : splitOffFrontMatter s' d = some (fm', rest')) :
    lines fm = lines fm' ∧ lines rest = lines rest' := by
  obtain ⟨_, h2, _, b, hb, hc⟩ := split_sound s d fm rest hd h
  obtain ⟨_, h2', _, b', hb', hc'⟩ := split_sound s' d fm' rest' hd h'
  exact closing_unique d b b' _ _ _ _ hb hb' (h2.symm.trans (hl.trans h2')) hc hc'

/-- Recognition depends on the lines only. -/
theorem split_recognition_of_lines (s s' d : Bytes) (hd : d ≠ [])
    (hl : lines (stripBom s) = lines (stripBom s')) :
    (splitOffFrontMatter s d).isSome = (splitOffFrontMatter s' d).isSome := by
  rw [Bool.eq_iff_iff, split_recognised_iff s d hd, split_recognised_iff s' d hd, hl]

/-- **Any mix of line endings.** Rewriting every CRLF, lone CR and LF of a text as LF changes
    neither whether front matter is recognised nor the lines of the front matter and of the rest
    (so all spellings of the line ends of a text are split alike; before d92265f the CR-only
    spelling was not recognised, see `front_matter_cr_repaired`). -/
theorem front_matter_any_line_endings (s d : Bytes) (hd : d ≠ []) :
    (splitOffFrontMatter (toLf false s) d).isSome = (splitOffFrontMatter s d).isSome ∧
    ∀ fm rest fm' rest', splitOffFrontMatter (toLf false s) d = some (fm', rest') →
      splitOffFrontMatter s d = some (fm, rest) → lines fm' = lines fm ∧ lines rest' = lines rest := by
  have hl : lines (stripBom (toLf false s)) = lines (stripBom s) := by
    rw [stripBom_toLf, lines_any_endings]
  exact ⟨split_recognition_of_lines _ _ d hd hl,
    fun fm rest fm' rest' h' h => split_lines_invariant _ _ d fm' rest' fm rest hd hl h' h⟩

/-- From the second line on, the starting line number only shows in the numbers assigned. -/
theorem preludes_shift (k n : Nat) (ls : List Bytes) :
    preludes (n + 1 + k) ls = (preludes (n + 1) ls).map (fun p => (p.1, p.2.1, p.2.2 + k)) := by
  induction ls generalizing n with
  | nil => rfl
  | cons l ls ih =>
    have e : n + 1 + k + 1 = n + 1 + 1 + k := by omega
    simp only [preludes, prelude, bomOffset, Nat.add_eq_zero_iff, Nat.succ_ne_zero, false_and, if_false,
      List.map_cons, e, ih (n + 1)]

/-- With front matter taken, the block parser is handed exactly the lines of the rest, with their
    line numbers shifted by the number of line endings of the front matter (`line_number += lines`
    in `feed`; that this is the number of its lines: `front_matter_line_count`), a rest that itself
    starts with U+FEFF excepted: there the mark is text, see `bom_rest_counterexample`. -/
theorem lines_shift (s d fm rest : Bytes) (h : splitOffFrontMatter s d = some (fm, rest))
    (hb : ∀ l, (parseLines rest).head? = some l → isPrefixB BOM (Feed.sentinel l) = false) :
    parseDoc (some d) s
      = (some fm, (parseDoc none rest).2.map (fun p => (p.1, p.2.1, p.2.2 + lineEndings fm))) := by
  simp only [parseDoc, h]
  cases hl : parseLines rest with
  | nil => rfl
  | cons l ls =>
    -- the first line: no byte-order mark is skipped, with or without front matter
    have h0 := hb l (by rw [hl]; rfl)
    have hrest := preludes_shift (lineEndings fm) 0 ls
    simp only [Nat.zero_add] at hrest
    simp only [preludes, prelude, bomOffset, h0, Bool.false_eq_true, and_false, if_false, List.map_cons,
      Nat.zero_add, Nat.add_comm (lineEndings fm) 1, hrest]

/-- Without a recognised front matter the option changes nothing. -/
theorem unrecognised_is_ordinary (s d : Bytes) (h : splitOffFrontMatter s d = none) :
    parseDoc (some d) s = parseDoc none s := by
  simp [parseDoc, h]

/-- The shift is the number of lines of the front matter: whenever anything follows the front
    matter, `count_line_endings` of it is the number of its lines (LF, CRLF and CR alike). -/
theorem front_matter_line_count (s d fm rest : Bytes) (h : splitOffFrontMatter s d = some (fm, rest))
    (hr : rest ≠ []) : lineEndings fm = (lines fm).length := by
  obtain ⟨a0, e, he, rfl⟩ := (split_spec s d fm rest h).2.2.1.resolve_left hr
  obtain ⟨b, hb, hbe⟩ := isEol_getLast a0 e he
  exact countLineEndings_eq_lines _ _ (Nat.lt_succ_self _) fun b' hb' => Option.some.inj (hb.symm.trans hb') ▸ hbe

/-- `-\ra\r-\rt` with delimiter `-` (three lines of front matter, each ended by a lone CR): `t` is
    the fourth line of the text and is numbered 4, as in the LF spelling.  Before /repo commit
    ef24343 ("fix: count CR and CRLF line endings of the front matter") `feed` advanced the line
    number by the number of LF bytes of the front matter (`countLF`, here 0) and `t` was numbered 1;
    repaired there. -/
theorem bare_cr_line_shift_repaired :
    parseDoc (some [0x2D]) [0x2D, 0x0D, 0x61, 0x0D, 0x2D, 0x0D, 0x74]
      = (some [0x2D, 0x0D, 0x61, 0x0D, 0x2D, 0x0D], [([0x74, 0x0A], 0, 4)]) ∧
    lines [0x2D, 0x0D, 0x61, 0x0D, 0x2D, 0x0D] = [[0x2D], [0x61], [0x2D]] ∧
    countLF [0x2D, 0x0D, 0x61, 0x0D, 0x2D, 0x0D] = 0 ∧
    parseDoc (some [0x2D]) [0x2D, 0x0A, 0x61, 0x0A, 0x2D, 0x0A, 0x74]
      = (some [0x2D, 0x0A, 0x61, 0x0A, 0x2D, 0x0A], [([0x74, 0x0A], 0, 4)]) := by decide +kernel

/-- `docOf spd (.cons (fmNode fm sp) rest)` is the tree the parser builds when it recognises front
    matter: the `FrontMatter` node (payload `fm`) first, then the blocks of the rest. -/
def docOf (spd : Sp) (cs : Forest) : Tree := .node .document spd cs
def fmNode (fm : Bytes) (sp : Sp) : Tree := .node (.frontMatter fm) sp .nil

/-- **HTML, node level** (`render_frontmatter`): in every context and writer state, for every
    option vector, the node contributes no token and leaves the writer state untouched. -/
theorem html_front_matter_absent (o : HtmlOpts) (nt : NormTable) (cx : Ctx) (fm : Bytes) (sp : Sp) (st : St) :
    renderT o nt cx (fmNode fm sp) st = ([], st) :=
  renderT_frontMatter o nt cx fm sp st

/-- **HTML, document level.** The tokens of `Document [FrontMatter fm, rest…]` are exactly the
    tokens of `Document [rest…]`, for every option vector and every `rest` (no shape hypothesis:
    the following siblings see another `prev`/`index`, which only a table row and a cell below a
    grandparent read: `enter_ctx_congr`). -/
theorem html_front_matter_absent_doc (o : HtmlOpts) (nt : NormTable) (fm : Bytes) (spd sp : Sp) (rest : Forest) :
    renderToks o nt (docOf spd (.cons (fmNode fm sp) rest)) = renderToks o nt (docOf spd rest) := by
  unfold renderToks docOf fmNode W.seq
  simp only [renderT_doc_frontMatter]

/-- ... hence the same bytes. -/
theorem html_front_matter_absent_bytes (o : HtmlOpts) (nt : NormTable) (fm : Bytes) (spd sp : Sp) (rest : Forest) :
    renderHtml o nt (docOf spd (.cons (fmNode fm sp) rest)) = renderHtml o nt (docOf spd rest) := by
  unfold renderHtml; rw [html_front_matter_absent_doc]

/-- **XML, node level.** In XML the node is *not* absent: it is one self-closing element
    `<frontmatter />` (with the position attribute when asked for).  The payload is never
    written (`NodeValue::FrontMatter(_) => ()` in `format_node`). -/
theorem xml_front_matter_is_empty_element (o : XmlOpts) (ind : Nat) (cx : XCtx) (fm : Bytes) (sp : Sp) :
    renderXmlT o ind cx (fmNode fm sp) = [.empty ind XS.e_frontmatter (xmlSpAttr o sp)] :=
  renderXmlT_frontMatter o ind cx fm sp

/-- **XML, document level.** With a non-empty rest, the tokens of `Document [FrontMatter fm,
    rest…]` are the tokens of `Document [rest…]` with the one `<frontmatter />` line inserted
    right after the document start tag; everything else is identical (the shifted sibling index
    is only read by cells of a header row, which are not children of the root). -/
theorem xml_front_matter_one_element_doc (o : XmlOpts) (fm : Bytes) (spd sp : Sp) (r : Tree) (rs : Forest) :
    ∃ hd body,
      renderXmlToks o (docOf spd (.cons r rs)) = hd :: body ∧
      renderXmlToks o (docOf spd (.cons (fmNode fm sp) (.cons r rs)))
        = hd :: .empty 2 XS.e_frontmatter (xmlSpAttr o sp) :: body := by
  refine ⟨_, _, renderXmlToks_doc o spd r rs, ?_⟩
  rw [docOf, fmNode, renderXmlToks_doc, renderXmlF, renderXmlT_frontMatter,
    renderXmlF_index_irrel o 2 (some .document) none nofun (.cons r rs) (0 + 1) 0]
  rfl

/-- The XML of the document with front matter is never the XML of the rest alone. -/
theorem xml_front_matter_not_absent (o : XmlOpts) (fm : Bytes) (spd sp : Sp) (r : Tree) (rs : Forest) :
    renderXmlToks o (docOf spd (.cons (fmNode fm sp) (.cons r rs))) ≠ renderXmlToks o (docOf spd (.cons r rs)) := by
  obtain ⟨hd, body, h1, h2⟩ := xml_front_matter_one_element_doc o fm spd sp r rs
  rw [h1, h2]
  intro h
  have := congrArg List.length h
  simp at this

/-- **CommonMark, the node alone** (`format_front_matter` on a fresh writer): for every option
    vector, whatever the width, the buffer holds exactly the payload. -/
theorem cm_front_matter_alone (o : Cm.CmOpts) (fm : Bytes) (spd sp : Sp) :
    Cm.renderCm o (docOf spd (.cons (fmNode fm sp) .nil)) = Cm.finalBytes fm.reverse := by
  rw [Cm.renderCm_eq_finalBytes]
  unfold docOf fmNode
  rw [Cm.renderT_doc_fm_nil, Cm.fmEnd_rv, Cm.output_frontMatter_fresh_rv]

/-- ... in particular a payload that ends with a line feed (every front matter block whose last
    line ends in LF or CRLF does) is reproduced exactly. -/
theorem cm_front_matter_alone_lf (o : Cm.CmOpts) (body : Bytes) (spd sp : Sp) :
    Cm.renderCm o (docOf spd (.cons (fmNode (body ++ [0x0A]) sp) .nil)) = body ++ [0x0A] := by
  rw [cm_front_matter_alone]
  simp [Cm.finalBytes]

/-- **CommonMark, verbatim at the top.** For every option vector (every `width`, not only 0),
    every payload and every following siblings: the CommonMark rendering of
    `Document [FrontMatter fm, rest…]` starts with `fm`, byte for byte.  (Nothing written later
    reaches back: pending newlines, prefixes and escapes only append, and the re-wrap at the last
    breakable space happens at a position recorded after the payload was written.) -/
theorem cm_front_matter_verbatim (o : Cm.CmOpts) (fm : Bytes) (spd sp : Sp) (rest : Forest) :
    fm <+: Cm.renderCm o (docOf spd (.cons (fmNode fm sp) rest)) :=
  Cm.renderCm_frontMatter_prefix o fm spd sp rest

/-- `---\rfoo\r---\rt`: CR-only line endings were not recognised (former C08 finding); repaired in
    /repo commit d92265f: CR is a line ending, the split is the same as for the LF spelling. -/
theorem front_matter_cr_repaired :
    splitOld [0x2D, 0x2D, 0x2D, 0x0D, 0x66, 0x6F, 0x6F, 0x0D, 0x2D, 0x2D, 0x2D, 0x0D, 0x74]
      [0x2D, 0x2D, 0x2D] = none ∧
    splitOffFrontMatter [0x2D, 0x2D, 0x2D, 0x0D, 0x66, 0x6F, 0x6F, 0x0D, 0x2D, 0x2D, 0x2D, 0x0D, 0x74]
      [0x2D, 0x2D, 0x2D]
      = some ([0x2D, 0x2D, 0x2D, 0x0D, 0x66, 0x6F, 0x6F, 0x0D, 0x2D, 0x2D, 0x2D, 0x0D], [0x74]) ∧
    splitOffFrontMatter [0x2D, 0x2D, 0x2D, 0x0A, 0x66, 0x6F, 0x6F, 0x0A, 0x2D, 0x2D, 0x2D, 0x0A, 0x74]
      [0x2D, 0x2D, 0x2D]
      = some ([0x2D, 0x2D, 0x2D, 0x0A, 0x66, 0x6F, 0x6F, 0x0A, 0x2D, 0x2D, 0x2D, 0x0A], [0x74]) := by
  decide +kernel

/-- `---\na\n---b\n---`: a body line that starts with the delimiter used to defeat the
    end-of-input alternative although the last line is the delimiter alone; repaired in /repo
    commit d92265f: the whole text is front matter. -/
theorem body_line_eof_repaired :
    splitOld [0x2D, 0x2D, 0x2D, 0x0A, 0x61, 0x0A, 0x2D, 0x2D, 0x2D, 0x62, 0x0A, 0x2D, 0x2D, 0x2D]
      [0x2D, 0x2D, 0x2D] = none ∧
    splitOffFrontMatter [0x2D, 0x2D, 0x2D, 0x0A, 0x61, 0x0A, 0x2D, 0x2D, 0x2D, 0x62, 0x0A, 0x2D, 0x2D, 0x2D]
      [0x2D, 0x2D, 0x2D]
      = some ([0x2D, 0x2D, 0x2D, 0x0A, 0x61, 0x0A, 0x2D, 0x2D, 0x2D, 0x62, 0x0A, 0x2D, 0x2D, 0x2D], []) := by
  decide +kernel

/-- `---\n---\nt`: an empty body was not recognised; repaired in /repo commit d92265f. -/
theorem empty_body_repaired :
    splitOld [0x2D, 0x2D, 0x2D, 0x0A, 0x2D, 0x2D, 0x2D, 0x0A, 0x74] [0x2D, 0x2D, 0x2D] = none ∧
    splitOffFrontMatter [0x2D, 0x2D, 0x2D, 0x0A, 0x2D, 0x2D, 0x2D, 0x0A, 0x74] [0x2D, 0x2D, 0x2D]
      = some ([0x2D, 0x2D, 0x2D, 0x0A, 0x2D, 0x2D, 0x2D, 0x0A], [0x74]) := by
  decide +kernel

/-- `---\na\n---\nb\n---\r\nc`: with mixed line endings a later CRLF-terminated delimiter line
    used to be preferred over the first (LF-terminated) one, so `b` disappeared into the front
    matter; repaired in /repo commit d92265f: the first closing line wins. -/
theorem mixed_endings_repaired :
    splitOld
      [0x2D, 0x2D, 0x2D, 0x0A, 0x61, 0x0A, 0x2D, 0x2D, 0x2D, 0x0A, 0x62, 0x0A, 0x2D, 0x2D, 0x2D, 0x0D, 0x0A, 0x63]
      [0x2D, 0x2D, 0x2D]
    = some ([0x2D, 0x2D, 0x2D, 0x0A, 0x61, 0x0A, 0x2D, 0x2D, 0x2D, 0x0A, 0x62, 0x0A, 0x2D, 0x2D, 0x2D, 0x0D, 0x0A],
            [0x63]) ∧
    splitOffFrontMatter
      [0x2D, 0x2D, 0x2D, 0x0A, 0x61, 0x0A, 0x2D, 0x2D, 0x2D, 0x0A, 0x62, 0x0A, 0x2D, 0x2D, 0x2D, 0x0D, 0x0A, 0x63]
      [0x2D, 0x2D, 0x2D]
    = some ([0x2D, 0x2D, 0x2D, 0x0A, 0x61, 0x0A, 0x2D, 0x2D, 0x2D, 0x0A],
            [0x62, 0x0A, 0x2D, 0x2D, 0x2D, 0x0D, 0x0A, 0x63]) := by
  decide +kernel

/-- A rest that starts with U+FEFF: inside the document the mark is text (offset 0 on line 4),
    on its own it is skipped (offset 3). Not a defect: a byte-order mark exists only at the very
    start of a text; the search oracle excludes such rests. `-\na\n-\n<BOM>t` with delimiter `-`. -/
theorem bom_rest_counterexample :
    parseDoc (some [0x2D]) [0x2D, 0x0A, 0x61, 0x0A, 0x2D, 0x0A, 0xEF, 0xBB, 0xBF, 0x74]
      = (some [0x2D, 0x0A, 0x61, 0x0A, 0x2D, 0x0A], [([0xEF, 0xBB, 0xBF, 0x74, 0x0A], 0, 4)]) ∧
    parseDoc none [0xEF, 0xBB, 0xBF, 0x74] = (none, [([0xEF, 0xBB, 0xBF, 0x74, 0x0A], 3, 1)]) := by
  decide +kernel

-- "<BOM>ab\r\n\r\nab\r\n\r\nx" with delimiter "ab": BOM stripped, blank body line, blank line absorbed
example : splitOffFrontMatter
    [0xEF, 0xBB, 0xBF, 0x61, 0x62, 0x0D, 0x0A, 0x0D, 0x0A, 0x61, 0x62, 0x0D, 0x0A, 0x0D, 0x0A, 0x78] [0x61, 0x62]
    = some ([0x61, 0x62, 0x0D, 0x0A, 0x0D, 0x0A, 0x61, 0x62, 0x0D, 0x0A, 0x0D, 0x0A], [0x78]) := by decide +kernel
-- closing delimiter at the end of the input
example : splitOffFrontMatter [0x2D, 0x0A, 0x61, 0x0A, 0x2D] [0x2D] = some ([0x2D, 0x0A, 0x61, 0x0A, 0x2D], []) := by
  decide +kernel
-- only one blank line goes with the front matter: "-\na\n-\n\n\nx"
example : splitOffFrontMatter [0x2D, 0x0A, 0x61, 0x0A, 0x2D, 0x0A, 0x0A, 0x0A, 0x78] [0x2D]
    = some ([0x2D, 0x0A, 0x61, 0x0A, 0x2D, 0x0A, 0x0A], [0x0A, 0x78]) := by decide +kernel
-- the hypotheses of `split_complete` are satisfiable, every line with another ending, a body line
-- that starts with the delimiter: "-\r\n-a\r-\n\rx" has the lines ["-", "-a", "-", "", "x"]
example : lines [0x2D, 0x0D, 0x0A, 0x2D, 0x61, 0x0D, 0x2D, 0x0A, 0x0D, 0x78]
    = [0x2D] :: [[0x2D, 0x61]] ++ [0x2D] :: [[], [0x78]] := by decide +kernel
example : splitOffFrontMatter [0x2D, 0x0D, 0x0A, 0x2D, 0x61, 0x0D, 0x2D, 0x0A, 0x0D, 0x78] [0x2D]
    = some ([0x2D, 0x0D, 0x0A, 0x2D, 0x61, 0x0D, 0x2D, 0x0A, 0x0D], [0x78]) := by decide +kernel
-- hypotheses of the `split_none_*` lemmas are satisfiable: " -\na\n-\n", "- \na\n-\n", "-\na\n", "-\na\n-x\n"
example : (lines (stripBom [0x20, 0x2D, 0x0A, 0x61, 0x0A, 0x2D, 0x0A])).head? ≠ some [0x2D] := by decide
example : (lines (stripBom [0x2D, 0x20, 0x0A, 0x61, 0x0A, 0x2D, 0x0A])).head? ≠ some [0x2D] := by decide
example : [0x2D] ∉ (lines (stripBom [0x2D, 0x0A, 0x61, 0x0A])).tail := by decide +kernel
example : [0x2D] ∉ (lines (stripBom [0x2D, 0x0A, 0x61, 0x0A, 0x2D, 0x78, 0x0A])).tail := by decide +kernel
example : isPrefixB [0x2D] (stripBom [0x20, 0x2D, 0x0A, 0x61, 0x0A, 0x2D, 0x0A]) = false := by decide
example : splitOffFrontMatter [0x2D, 0x20, 0x0A, 0x61, 0x0A, 0x2D, 0x0A] [0x2D] = none := by decide
example : splitOffFrontMatter [0x2D, 0x0A, 0x61, 0x0A] [0x2D] = none := by decide
example : splitOffFrontMatter [0x2D, 0x0A, 0x61, 0x0A, 0x2D, 0x78, 0x0A] [0x2D] = none := by decide
-- `front_matter_line_count`: "-\r\na\r-\n" + "x" has three line endings (CRLF, CR, LF), three lines
example : splitOffFrontMatter [0x2D, 0x0D, 0x0A, 0x61, 0x0D, 0x2D, 0x0A, 0x78] [0x2D]
      = some ([0x2D, 0x0D, 0x0A, 0x61, 0x0D, 0x2D, 0x0A], [0x78]) ∧
    lineEndings [0x2D, 0x0D, 0x0A, 0x61, 0x0D, 0x2D, 0x0A] = 3 ∧
    (lines [0x2D, 0x0D, 0x0A, 0x61, 0x0D, 0x2D, 0x0A]).length = 3 := by decide +kernel

-- renderer half: "-\na\n-\n" + paragraph "x"; HTML has no trace, XML has the element, CommonMark starts with it
example : renderHtml {} {} (docOf {} (.cons (fmNode [0x2D, 0x0A, 0x61, 0x0A, 0x2D, 0x0A] {})
      (.cons (.node .paragraph {} (.cons (.node (.text [0x78]) {} .nil) .nil)) .nil)))
    = [0x3C, 0x70, 0x3E, 0x78, 0x3C, 0x2F, 0x70, 0x3E, 0x0A] := by decide +kernel
example : Cm.renderCm {} (docOf {} (.cons (fmNode [0x2D, 0x0A, 0x61, 0x0A, 0x2D, 0x0A] {})
      (.cons (.node .paragraph {} (.cons (.node (.text [0x78]) {} .nil) .nil)) .nil)))
    = [0x2D, 0x0A, 0x61, 0x0A, 0x2D, 0x0A, 0x78, 0x0A] := by decide +kernel
example : renderXmlToks {} (docOf {} (.cons (fmNode [0x2D] {}) .nil))
    = [.opn 0 XS.e_document [xAttr XS.a_xmlns XS.v_xmlns], .empty 2 XS.e_frontmatter [], .close 0 XS.e_document] := by
  decide +kernel

end Comrak.C20
