/-
C01  Total on every input: no panic, abort, overflow or hang.

A whole-program theorem would need a model of the whole parser. What is proved here is each
*mechanism* the property's anchors name, with every Rust panic site explicit in the model
(`none`/`overflow` = panic) and every loop structurally recursive or fuelled. The models are tied to
the real functions by the correspondence stage (hooks `comrak::verif::*`, model `none` <-> real
panic); everything else is reached by the search stage (isolated workers, both build profiles).
Totality theorems proved for other properties are cited in the evidence: C19 (`escape`,
`escape_href` are total functions on bytes), C14 (`tagfilter_total`), C10 (`renderHtml` is a total
structural recursion).
-/
import Comrak.Lemmas.Total
import Comrak.Props.C04
namespace Comrak.C01
open Comrak Bytes Comrak.Tot

/-! ## `cm::shortest_unused_sequence` -/

/-- The repaired code returns within 32 iterations with a result in 0..=32, for every literal
    (the function is a structural recursion: no fuel, no failure value). -/
theorem shortestUnused_le_32 (l : Bytes) (f : UInt8) : shortestUnused l f ≤ 32 :=
  (shortestUnused_spec l f).2.1

/-- ... and at least 1 (bit 0 is always set), so the code span always gets a delimiter. -/
theorem shortestUnused_pos (l : Bytes) (f : UInt8) : 1 ≤ shortestUnused l f :=
  (shortestUnused_spec l f).1

/-- Totality as a statement about the loop: the cap makes the `while` loop exit after at most 32
    iterations whatever the bit set is (contrast `shortestUnused_old_diverges`). -/
theorem shortestUnused_total (used i : Nat) : i ≤ suLoop (32 - i) used i ∧ suLoop (32 - i) used i ≤ max i 32 := by
  have := (suLoop_spec (32 - i) used).1
  rw [suLoop_add]
  omega

/-- **Result < 32 is really unused**: no maximal run of `f` of that length occurs in the literal,
    and every shorter length 1..result-1 does occur (it is the shortest). -/
theorem shortestUnused_is_unused_partial (l : Bytes) (f : UInt8) (h : shortestUnused l f < 32) :
    shortestUnused l f ∉ runs f l ∧ ∀ j, 0 < j → j < shortestUnused l f → j ∈ runs f l :=
  ⟨(shortestUnused_spec l f).2.2.2 h, (shortestUnused_spec l f).2.2.1⟩

/-- The excluded case: when every length 1..31 occurs the answer is 32 although a run of 32 may occur
    too (cmark behaves the same; 32 consecutive backticks inside a code span whose content also has
    runs of every length 1..31 need at least 527 bytes of backticks).  The statement itself only
    shows two short literals, whose answers lie below the cap. -/
theorem shortestUnused_cap_counterexample :
    ∃ l : Bytes, shortestUnused l 0x60 = 2 ∧ 2 ∉ runs 0x60 l ∧
      shortestUnused [0x60, 0x61, 0x60, 0x60] 0x60 = 3 := by
  exact ⟨[0x60, 0x61], by decide, by decide, by decide⟩

/-! ### The pinned code (repaired by commit 399b672), kept as a witness -/

/-- With all 32 bits set (`used == -1` as an `i32`) the loop condition `used & 1 != 0` stays true
    under the arithmetic shift: for every fuel the loop has not exited. -/
theorem shortestUnused_old_diverges (fuel i : Nat) : suLoopOld fuel (BitVec.allOnes 32) i = none := by
  induction fuel generalizing i with
  | zero => rfl
  | succ k ih =>
    have h2 : (BitVec.allOnes 32).sshiftRight 1 = BitVec.allOnes 32 := by decide
    simp only [suLoopOld, h2]
    exact ih (i + 1)

/-- Runs of lengths 1..n separated by one other byte. -/
def allRuns (f sep : UInt8) : Nat → Bytes
  | 0 => []
  | n + 1 => allRuns f sep n ++ List.replicate (n + 1) f ++ [sep]

/-- `allRuns f sep n ++ acc`, built from the back so that evaluating it is linear in its length. -/
def allRunsOnto (f sep : UInt8) : Nat → Bytes → Bytes
  | 0, acc => acc
  | n + 1, acc => allRunsOnto f sep n (List.replicate (n + 1) f ++ sep :: acc)

theorem allRuns_eq (f sep : UInt8) (n : Nat) : allRuns f sep n = allRunsOnto f sep n [] := by
  have h : ∀ acc, allRuns f sep n ++ acc = allRunsOnto f sep n acc := by
    induction n with
    | zero => intro acc; rfl
    | succ n ih => intro acc; rw [allRuns, allRunsOnto, ← ih]; simp
  simpa using h []

/-- The input class that produced that state on the pinned tree: a literal containing backtick runs
    of every length 1..31 sets all 32 bits (release build semantics). -/
theorem shortestUnused_old_all_bits :
    suScanOld false 0x60 (allRuns 0x60 0x20 31) 0 1#32 = some (BitVec.allOnes 32) := by
  rw [allRuns_eq]; decide +kernel

/-- A run of 32 trips `1 << 32` in a build with overflow checks. -/
theorem shortestUnused_old_shift_overflow :
    suScanOld true 0x60 (List.replicate 32 0x60) 0 1#32 = none := by decide +kernel

/-- The repaired code on the same two inputs. -/
theorem shortestUnused_fixed_on_witnesses :
    shortestUnused (allRuns 0x60 0x20 31) 0x60 = 32 ∧ shortestUnused (List.replicate 32 0x60) 0x60 = 1 := by
  rw [allRuns_eq]; decide +kernel

/-- `Spx::consume` never panics as long as the queue holds the requested bytes, for EVERY queue -
    verbatim or not (the pinned tree asserted `ec - sc + 1 = x` in the `Less` arm and panicked on an
    unresolved footnote reference whose label held an e-mail address and an escape, entity or line
    break; repaired in /repo) - and exactly `rem` bytes are gone afterwards. -/
theorem spx_consume_total (q : List Seg) (rem : Nat) (hne : q ≠ []) (hsum : rem ≤ spxTotal q) :
    ∃ e q', spxConsume q rem = some (e, q') ∧ spxTotal q' + rem = spxTotal q := by
  induction q generalizing rem with
  | nil => exact absurd rfl hne
  | cons s q ih =>
    rw [spxTotal_cons] at hsum
    simp only [spxConsume, spxTotal_cons]
    split
    · have hne' : q ≠ [] := by
        rintro rfl; simp [spxTotal] at hsum; omega
      obtain ⟨e, q', h1, h3⟩ := ih (rem - s.x) hne' (by omega)
      exact ⟨e, q', h1, by omega⟩
    · split
      · exact ⟨s.ec, q, rfl, by omega⟩
      · exact ⟨_, _, rfl, by simp only [spxTotal_cons]; omega⟩

/-- On verbatim segments (one column per byte) the remaining queue is verbatim again. -/
theorem spx_consume_verbatim (q : List Seg) (rem : Nat) (hv : ∀ s ∈ q, s.verbatim) (e : Nat) (q' : List Seg)
    (h : spxConsume q rem = some (e, q')) : ∀ s ∈ q', s.verbatim := by
  induction q generalizing rem with
  | nil => simp [spxConsume] at h
  | cons s q ih =>
    obtain ⟨hs, hq⟩ := List.forall_mem_cons.mp hv
    simp only [spxConsume] at h
    split at h
    · exact ih _ hq h
    · split at h
      · obtain ⟨_, rfl⟩ := Prod.mk.inj (Option.some.inj h)
        exact hq
      · obtain ⟨_, rfl⟩ := Prod.mk.inj (Option.some.inj h)
        refine List.forall_mem_cons.mpr ⟨?_, hq⟩
        unfold Seg.verbatim at hs ⊢; simp only; omega

/-- Chains of calls (what `process_email_autolinks` does: `consume(i)`, `consume(skip)`, recursion on the
    rest) stay defined as long as the requested bytes are available. -/
theorem spx_consume_all_total (q : List Seg) (rems : List Nat)
    (hsum : rems.sum ≤ spxTotal q) (hpos : ∀ r ∈ rems, 0 < r) :
    (spxConsumeAll q rems).isSome = true := by
  induction rems generalizing q with
  | nil => simp [spxConsumeAll]
  | cons r rs ih =>
    have hr : 0 < r := hpos r (by simp)
    simp only [List.sum_cons] at hsum
    have hne : q ≠ [] := by rintro rfl; simp [spxTotal] at hsum; omega
    obtain ⟨e, q', h1, h3⟩ := spx_consume_total q r hne (by omega)
    obtain ⟨p, hp⟩ := Option.isSome_iff_exists.mp (ih q' (by omega) fun x hx => hpos x (by simp [hx]))
    simp [spxConsumeAll, h1, hp]

/-- The former failing input: `[^\]b@c.d]` is the text `[^]b@c.d]` (10 bytes) at columns 1..11;
    `consume(3)` hit the `assert!` on the pinned tree and now answers column 3. -/
theorem spx_consume_former_counterexample :
    spxConsume [⟨1, 1, 1, 11, 10⟩] 3 = some (3, [⟨1, 4, 1, 11, 7⟩]) := by decide

/-- `unreachable!()`: asking an empty queue for anything. -/
theorem spx_consume_empty_counterexample : spxConsume [] 0 = none := by decide

/-! ## `entity::unescape` arithmetic -/

/-- `codepoint * base + digit` stays below 2^32 because of the `min(.., 0x110000)` after every step:
    no `u32` overflow for any number of digits (bases 10 and 16). -/
theorem entity_codepoint_no_overflow (base : Nat) (ds : List Nat) (cp : Nat) (hb : base ≤ 16)
    (hd : ∀ d ∈ ds, d < base) (hc : cp ≤ 0x110000) :
    ∃ r, cpFold base ds cp = some r ∧ r ≤ 0x110000 := by
  induction ds generalizing cp with
  | nil => exact ⟨cp, rfl, hc⟩
  | cons d ds ih =>
    obtain ⟨r, h1, h2⟩ := cpStep_bound base cp d hb (hd d (by simp)) hc
    simp only [cpFold, h1]
    exact ih r (fun x hx => hd x (by simp [hx])) h2

/-- `(c | 32) % 39 - 9` never underflows on a hexadecimal digit and yields its value. -/
theorem hexval_no_underflow : ∀ c : UInt8, isXDigit c = true → ∃ v, hexval c = some v ∧ v < 16 := by
  have h : ∀ n : Fin 256, isXDigit (UInt8.ofNat n.val) = true →
      (hexval (UInt8.ofNat n.val)).any (· < 16) = true := by decide +kernel
  intro c hc
  have := h ⟨c.toNat, UInt8.toNat_lt c⟩
  rw [UInt8.ofNat_toNat] at this
  obtain ⟨v, hv, hlt⟩ := (Option.any_eq_true _ _).mp (this hc)
  exact ⟨v, hv, of_decide_eq_true hlt⟩

/-- The numeric-reference branch never reports an arithmetic failure. -/
theorem numericEntity_no_overflow (t : Bytes) : numericEntity t ≠ .overflow := by
  have key : ∀ (base : Nat) (ds : List Nat) (k : Nat → NumEnt), base ≤ 16 → (∀ d ∈ ds, d < base) →
      (∀ cp, k cp ≠ .overflow) →
      (match cpFold base ds 0 with | none => NumEnt.overflow | some cp => k cp) ≠ .overflow := by
    intro base ds k hb hd hk
    obtain ⟨r, h1, _⟩ := entity_codepoint_no_overflow base ds 0 hb hd (by omega)
    simp only [h1]
    exact hk r
  unfold numericEntity
  split
  · simp
  · simp only []
    split
    · refine key 10 _ _ (by omega) (fun d hd => ?_) (fun cp => by split <;> simp)
      obtain ⟨c, hc, rfl⟩ := List.mem_map.mp hd
      exact decval_lt c (List.all_eq_true.mp List.all_takeWhile c hc)
    · split
      · refine key 16 _ _ (by omega) (fun d hd => ?_) (fun cp => by split <;> simp)
        obtain ⟨c, hc, rfl⟩ := List.mem_map.mp hd
        obtain ⟨v, hv, hlt⟩ := hexval_no_underflow c (List.all_eq_true.mp List.all_takeWhile c hc)
        simp [hv, hlt]
      · simp

/-! ## `strings::normalize_code` (`format_code` reads `literal[0]`) -/

/-- A code span's literal is never empty when the source between the delimiters is not. -/
theorem normalizeCode_nonempty (v : Bytes) (h : v ≠ []) : normalizeCode v ≠ [] := by
  unfold normalizeCode
  simp only []
  split
  · rename_i hc
    simp only [Bool.and_eq_true, List.any_eq_true] at hc
    obtain ⟨⟨⟨c, hcm, hcn⟩, hh⟩, hl⟩ := hc
    have hmem := ncBody_mem v c hcm (by simpa using hcn)
    have hc20 : c ≠ 0x20 := by
      intro h; subst h; simp [isCodeSpace] at hcn
    generalize ncBody v = r at *
    rcases r with _ | ⟨a, _ | ⟨b, _ | ⟨d, t⟩⟩⟩
    · simp at hmem
    · simp at hh hl hmem; subst hh; exact absurd hmem hc20
    · simp at hh hl hmem
      subst hh
      rcases hmem with h | h
      · exact absurd h hc20
      · exact absurd (h.trans hl) hc20
    · simp
  · exact ncBody_ne_nil v h

/-! ## `strings::chop_trailing_hashtags`, `strings::remove_trailing_blank_lines` under their callers' guards -/

theorem rtrim_ne_nil (l : Bytes) (c : UInt8) (hc : c ∈ l) (hn : isSpace c = false) : rtrim l ≠ [] := by
  intro h
  have hd : l.reverse.dropWhile isSpace = [] := by simpa [rtrim] using h
  have := List.any_dropWhile (p := isSpace) (l := l.reverse)
  simp [hd] at this
  simp [this c hc] at hn

/-- `add_line` calls it only on a non-blank line: some byte is not white space, so `line.len() - 1`
    and `line[n]` are in range. -/
theorem chop_hashtags_total (l : Bytes) (c : UInt8) (hc : c ∈ l) (hn : isSpace c = false) :
    (chopHashtags l).isSome = true := by
  unfold chopHashtags
  have := rtrim_ne_nil l c hc hn
  simp only []
  split
  · rename_i h; simp at h; exact absurd h this
  · split
    · rfl
    · split <;> rfl

/-- Called on front matter and on indented code block content, both non-empty. -/
theorem remove_trailing_blank_lines_total (l : Bytes) (h : l ≠ []) : (removeTrailingBlankLines l).isSome = true := by
  unfold removeTrailingBlankLines
  simp only []
  split
  · rename_i he; simp at he; exact absurd he h
  · split <;> rfl

/-- Without the guards both index below zero. -/
theorem chop_hashtags_unguarded_counterexample :
    chopHashtags [0x20, 0x20] = none ∧ removeTrailingBlankLines [] = none := by decide

/-! ## CommonMark writer prefix bookkeeping (witness of a defect found by the search stage) -/

/-- When the next number has as many digits as this one the prefix returns to its old length. -/
theorem cm_prefix_restored_partial (n : Nat) (h : numDigits (n + 1) = numDigits n) : cmQuoteItemPrefix n = some 0 := by
  have e : 2 + (numDigits n + 2) - (numDigits n + 2) = 2 := by omega
  simp [cmQuoteItemPrefix, h, e]

/-- `>9)`: leaving item 9 removes the width of "10) " and eats one byte of the quote's "> "; leaving the
    quote then computes `1 - 2`. Panics in debug builds (known finding C01-cm-prefix-underflow); in
    release the wrapped length makes `truncate` a no-op and a stale `>` stays in the prefix. -/
theorem cm_prefix_underflow_counterexample : cmQuoteItemPrefix 9 = none ∧ cmQuoteItemPrefix 99 = none ∧ cmQuoteItemPrefix 8 = some 0 := by
  decide

/-! ## The formatters' `unwrap()` / `panic!` / index sites on well-shaped trees (from C04)

`C04.noPanicT`, `xmlNoPanicT`, `cmNoPanicT` enumerate the sites of `html.rs`, `xml.rs` and `cm.rs`
whose safety depends on where a node sits (parent/grandparent kinds, cell index against the
table's alignments, a non-empty code literal).  On every tree that satisfies the C04 shape
predicate and is rooted at a document none of them can fire; that parsed trees satisfy `Shape`
is C04's search stage. -/

/-- `html.rs`: `render_paragraph`'s `parent().unwrap()`, `render_table`'s `last_child().unwrap()`,
    `render_table_cell`'s two `unwrap()`s, `panic!` and `alignments[i]`. -/
theorem html_no_panic_of_shape (sp : Sp) (cs : Forest) (h : Shape (.node .document sp cs) = true) :
    C04.noPanicT {} (.node .document sp cs) = true :=
  C04.shape_imp_noPanic_doc sp cs h

/-- `xml.rs`: the table-cell arm's `ancestors.next().unwrap()` (twice) and `alignments[ix]`. -/
theorem xml_no_panic_of_shape (sp : Sp) (cs : Forest) (h : Shape (.node .document sp cs) = true) :
    xmlNoPanicT {} (.node .document sp cs) = true :=
  C04.xml_no_panic _ h rfl

/-- `cm.rs`: `format_item`'s `parent().unwrap()`/`unreachable!()`, `format_code`'s `literal[0]`
    (needs the non-empty literal the inline parser guarantees, `normalizeCode_nonempty` above),
    `format_table_cell`'s `unwrap()`s and `panic!()`s. -/
theorem cm_no_panic_of_shape (sp : Sp) (cs : Forest) (h : Shape (.node .document sp cs) = true)
    (hc : Tree.allV codeLitNonEmpty (.node .document sp cs) = true) :
    cmNoPanicT {} (.node .document sp cs) = true :=
  C04.cm_no_panic _ h rfl hc

example : shortestUnused [0x61, 0x60, 0x62, 0x60, 0x60, 0x60] 0x60 = 2 := by decide
example : runs 0x60 [0x61, 0x60, 0x62, 0x60, 0x60, 0x60] = [1, 3] := by decide
example : spxConsumeAll [⟨1, 1, 1, 4, 4⟩, ⟨1, 5, 1, 5, 3⟩, ⟨1, 6, 1, 9, 4⟩] [2, 2, 3, 1] =
    some ([2, 4, 5, 6], [⟨1, 7, 1, 9, 3⟩]) := by decide
example : numericEntity [0x23, 0x78, 0x32, 0x32, 0x3B] = .hit 0x22 5 := by decide
example : numericEntity [0x23, 0x39, 0x39, 0x39, 0x39, 0x39, 0x39, 0x39, 0x3B] = .hit 0xFFFD 9 := by decide
example : normalizeCode [0x20, 0x61, 0x0D, 0x0A, 0x62, 0x20] = [0x61, 0x20, 0x62] := by decide
example : chopHashtags [0x61, 0x20, 0x23, 0x23, 0x20] = some [0x61] := by decide
example : removeTrailingBlankLines [0x61, 0x0A, 0x20, 0x0A, 0x0A] = some [0x61] := by decide
example : numDigits 123 + 1 = numDigits 124 + 1 ∧ cmQuoteItemPrefix 123 = some 0 := by decide

example : C04.noPanicT {} Comrak.C10.sampleTree = true := C04.shape_imp_noPanic _ (by decide) (by decide)

end Comrak.C01
