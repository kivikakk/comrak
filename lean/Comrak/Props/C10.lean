/-
C10  HTML output is balanced and properly nested.
Token-level statements about the complete model of `format_node_default` (Comrak/Html.lean),
for every option vector and every tree of any depth and width that respects `Shape`
(raw-HTML pass-through produces `Tok.raw`, which carries no tag events), and byte-level statements
against the run-time oracle `balancedBytes` in safe mode: the reading the property states, "whenever
raw HTML is not passed through".
-/
import Comrak.Lemmas.HtmlTreeBalance
import Comrak.Lemmas.HtmlLexTable
namespace Comrak.C10
open Comrak Bytes

/-- Per node, for all 41 kinds and all options: `enter` leaves exactly `opened` on the tag stack. -/
theorem enter_leaves_opened (o : HtmlOpts) (nt : NormTable) (cx : Ctx) (v : NodeValue) (sp : Sp) (cs : Forest)
    (st : St) (s : List Bytes) :
    run s (events (enter o nt cx v sp cs st).1) = some (opened o cx st v ++ s) :=
  enter_opened o nt cx v sp cs st s

/-- Per node: `exit` closes exactly `closing` (paired conditions - paragraph tightness,
    strong-in-strong, link-in-link, header/body cells - are computed identically on both sides). -/
theorem exit_closes_closing (o : HtmlOpts) (cx : Ctx) (v : NodeValue) (cs : Forest) (st : St) (s : List Bytes) :
    run (closing o cx v cs ++ s) (events (exit o cx v cs st).1) = some s :=
  exit_closing o cx v cs st s

/-- The back-links of a footnote definition are balanced for any number of references. -/
theorem backrefs_balanced (name : Bytes) (ix total : Nat) (s : List Bytes) :
    run s (events (backrefToks name ix total 1)) = some s :=
  run_backrefToks s name ix total 1

/-- `<tbody>` is left open by the rows exactly when the table closes it. -/
theorem tbody_once (rows : Forest) (h : rowsOk rows = true) :
    rowsEff none rows = if rows.length ≠ 1 then [S.t_tbody] else [] :=
  rowsEff_rowsOk rows h

mutual
theorem shapeT_imp_balShapeT : ∀ (t : Tree) (p : Option NodeValue), shapeT p t = true → balShapeT p t = true
  | .node v sp cs, p, h => by
    simp only [shapeT, Bool.and_eq_true] at h
    simp only [balShapeT, Bool.and_eq_true]
    refine ⟨⟨h.1.1.2, ?_⟩, shapeF_imp_balShapeF cs _ h.2⟩
    have hl := h.1.2
    cases v <;> simp_all [tableOk, localOk]
theorem shapeF_imp_balShapeF : ∀ (f : Forest) (p : Option NodeValue), shapeF p f = true → balShapeF p f = true
  | .nil, _, _ => rfl
  | .cons t ts, p, h => by
    simp only [shapeF, Bool.and_eq_true] at h
    simp only [balShapeF, Bool.and_eq_true]
    exact ⟨shapeT_imp_balShapeT t p h.1, shapeF_imp_balShapeF ts p h.2⟩
end

/-- **C10, token level.** Every start tag is closed in the right order and nothing is left open
    at the end of the document: for every option vector, normalisation table and tree with
    `balShapeT` (rows only under tables with the header row first and unique, footnote
    definitions only under the document or another definition). -/
theorem html_balanced (o : HtmlOpts) (nt : NormTable) (t : Tree) (h : balShapeT none t = true) :
    balanced (renderToks o nt t) = true := by
  simpa [balanced] using run_of_runO (renderToks_runO o nt t h)

/-- **C10 for every tree satisfying the full shape predicate of C04.** -/
theorem html_balanced_of_shape (o : HtmlOpts) (nt : NormTable) (t : Tree) (h : Shape t = true) :
    balanced (renderToks o nt t) = true :=
  html_balanced o nt t (shapeT_imp_balShapeT t none h)

/-! ### From tokens to bytes

The byte-level lexer `lexHtml` (the front end of the oracle `balancedBytes` that is run on the real
output) is proved to invert the spelling of comrak's own safe markup; token-level balance then gives
byte-level balance for the core of the oracle. -/

/-- **The lexer inverts the spelling**: for every token list of comrak's own safe markup
    (`allowedTok`: vocabulary names, attribute values that are `escape`/`escape_href` images or
    harmless literals, text escaped or harmless, the placeholder comment) the byte-level lexer run
    over the spelled bytes returns exactly the tokens' image `toL` (adjacent text pieces merged,
    attribute values as spelled).  No side condition beyond `allowedTok` is needed. -/
theorem lex_spell (ts : List Tok) (h : ts.all allowedTok = true) : lexHtml (spell ts) = some (toL ts) :=
  Comrak.lex_spell ts h

/-- `balancedBytesCore` (lexer + tag stack + void elements self-closed and only they) is the oracle
    `balancedBytes` minus its `<thead>`/`<tbody>`-once-under-`<table>` and footnote-section-once
    clauses: whatever the full oracle accepts the core accepts. -/
theorem balancedBytes_imp_core (bs : Bytes) (h : balancedBytes bs = .ok ()) : balancedBytesCore bs = .ok () :=
  Comrak.balancedBytes_imp_core bs h

/-- Every start tag the renderer writes is for a non-void element, every self-closed tag for a void
    one (`br`, `hr`, `img`, `input`) - all options, all trees. -/
theorem html_void_discipline (o : HtmlOpts) (nt : NormTable) (t : Tree) : (renderToks o nt t).all voidOk = true :=
  renderToks_void o nt t

/-- Token-level balance is byte-level balance, for any allowed void-respecting token list. -/
theorem balanced_tokens_balanced_bytes (ts : List Tok) (ha : ts.all allowedTok = true) (hv : ts.all voidOk = true)
    (hb : balanced ts = true) : balancedBytesCore (spell ts) = .ok () :=
  balancedBytesCore_spell ts ha hv hb

/-- **C10 on bytes, core oracle** (also a consequence of `html_balanced_bytes` below via
    `balancedBytes_imp_core`).  In safe mode (`unsafe_ = false`, so no raw HTML is passed through) the
    *bytes* of the rendered document lex as complete tags, comments and text, every end tag matches the
    innermost open start tag, nothing is left open, void elements are self-closed and no other element
    is.  Relative to the run-time oracle `balancedBytes` this statement lacks its two bookkeeping clauses
    (`<thead>` / `<tbody>` at most once and directly under `<table>`; the footnote `<section>` at most
    once). -/
theorem html_balanced_bytes_partial (o : HtmlOpts) (nt : NormTable) (t : Tree)
    (hb : balShapeT none t = true) (hu : o.unsafe_ = false)
    (hp : ∀ p, o.headerIds = some p → litSafe p = true) (hn : NormSafe nt) (ht : treeSafe t = true) :
    balancedBytesCore (renderHtml o nt t) = .ok () :=
  balancedBytesCore_spell _ (renderToks_allowed o hu hp nt hn t ht) (renderToks_void o nt t)
    (html_balanced o nt t hb)

/-- **Footnote section at most once, on bytes** (the `footnotesTwice` clause of `balancedBytes`,
    which does not depend on the tag stack): in safe mode the rendered bytes lex, and the lexed tokens
    contain at most one `<section class="footnotes" ...>` start tag.  (Also a consequence of
    `html_balanced_bytes`; this form needs no shape hypothesis.) -/
theorem html_footnote_section_once_bytes (o : HtmlOpts) (nt : NormTable) (t : Tree) (hu : o.unsafe_ = false)
    (hp : ∀ p, o.headerIds = some p → litSafe p = true) (hn : NormSafe nt) (ht : treeSafe t = true) :
    ∃ l, lexHtml (renderHtml o nt t) = some l ∧ l.countP isFnSecL ≤ 1 := by
  obtain ⟨l, h1, h2⟩ := lex_spell_fnCount _ (renderToks_allowed o hu hp nt hn t ht)
  exact ⟨l, h1, by rw [h2]; exact renderToks_fnCount o nt t⟩

/-! ### The full byte-level oracle

`runO` is the stack discipline of `balStep` (entries carry the `<thead>`/`<tbody>`-seen flags of a
`<table>`) on the abstract tag events of model tokens. -/

/-- **Table sections, token level**: run against the *flagged* tag stack of the oracle, the tag events
    of the rendered document succeed and leave nothing open: every `<thead>` / `<tbody>` start tag is
    written directly under a `<table>` and at most once per table, every end tag matches the innermost
    open element.  All options, every tree with `balShapeT` (rows only under tables, the header row
    first and unique - the same hypothesis as `html_balanced`). -/
theorem html_table_sections (o : HtmlOpts) (nt : NormTable) (t : Tree) (h : balShapeT none t = true) :
    runO [] (events (renderToks o nt t)) = some [] :=
  renderToks_runO o nt t h

/-- From the flagged token-level machine to the full byte oracle, for any allowed, void-respecting
    token list with at most one footnote-section start tag. -/
theorem flagged_tokens_balanced_bytes (ts : List Tok) (ha : ts.all allowedTok = true) (hv : ts.all voidOk = true)
    (hf : fnCount ts ≤ 1) (hr : runO [] (events ts) = some []) : balancedBytes (spell ts) = .ok () := by
  unfold balancedBytes
  rw [Comrak.lex_spell ts ha]
  exact balLoop_of_runO ts [] 0 [] hv (by omega) hr

/-- **C10 on bytes, full oracle.**  In safe mode (`unsafe_ = false`, so no raw HTML is passed
    through) the *bytes* of the rendered document pass the complete run-time oracle `balancedBytes`:
    they lex as complete tags, comments and text; every end tag matches the innermost open start tag
    and nothing is left open; void elements are self-closed and no other element is; `<thead>` and
    `<tbody>` occur only directly under `<table>` and at most once per table; the footnote
    `<section>` is opened at most once.  Hypotheses: `balShapeT` (C10), `treeSafe`, `NormSafe` and a
    harmless `header_ids` prefix (C02). -/
theorem html_balanced_bytes (o : HtmlOpts) (nt : NormTable) (t : Tree)
    (hb : balShapeT none t = true) (hu : o.unsafe_ = false)
    (hp : ∀ p, o.headerIds = some p → litSafe p = true) (hn : NormSafe nt) (ht : treeSafe t = true) :
    balancedBytes (renderHtml o nt t) = .ok () :=
  flagged_tokens_balanced_bytes _ (renderToks_allowed o hu hp nt hn t ht) (renderToks_void o nt t)
    (renderToks_fnCount o nt t) (renderToks_runO o nt t hb)

/-! Non-vacuity: a concrete shape-respecting tree with a two-row table and a footnote. -/
def sampleTree : Tree :=
  .node .document {} (.cons
    (.node (.table [.left] 1 2 2) {} (.cons
      (.node (.tableRow true) {} (.cons (.node .tableCell {} (.cons (.node (.text [0x61]) {} .nil) .nil)) .nil)) (.cons
      (.node (.tableRow false) {} (.cons (.node .tableCell {} .nil) .nil)) .nil))) (.cons
    (.node (.footnoteDefinition [0x78] 2) {} (.cons (.node .paragraph {} .nil) .nil)) .nil))

example : Shape sampleTree = true := by decide
example : (events (renderToks {} {} sampleTree)).length > 20 := by decide
example : treeSafe sampleTree = true := by decide
example : fnCount (renderToks {} {} sampleTree) = 1 := by decide +kernel
example : (match balancedBytes (renderHtml {} {} sampleTree) with | .ok _ => true | .error _ => false) = true := by decide +kernel

/-- The hypotheses of `html_balanced_bytes` are satisfiable (two-row table + footnote). -/
example : balancedBytes (renderHtml {} {} sampleTree) = .ok () :=
  html_balanced_bytes {} {} sampleTree (by decide) rfl (by intro p h; cases h) normSafe_empty (by decide)

/-- The table part of `balShapeT` is needed: a table whose second row is another header row is
    rejected by the oracle (`<thead>` twice). -/
def twoHeaders : Tree :=
  .node .document {} (.cons
    (.node (.table [.left] 1 2 2) {} (.cons
      (.node (.tableRow true) {} (.cons (.node .tableCell {} .nil) .nil)) (.cons
      (.node (.tableRow true) {} (.cons (.node .tableCell {} .nil) .nil)) .nil))) .nil)

theorem html_balanced_bytes_needs_shape :
    balShapeT none twoHeaders = false ∧
    (match balancedBytes (renderHtml {} {} twoHeaders) with | .error (.sectionTwice _) => true | _ => false) = true := by
  decide +kernel

end Comrak.C10
