/-
C04  Parsed tree is always structurally valid.
`Shape` (Comrak/Shape.lean) is the executable predicate the property states: the containment
table on every edge (`can_contain_type`, tied to the code exhaustively on all 41 x 41 kind
pairs on every run), placement of rows/cells/footnote definitions/documents, table geometry
(header row first and unique, every row has exactly `num_columns = alignments.length` cells),
heading level 1-6.  That *every parsed tree* satisfies `Shape` is a statement about the whole
block and inline parser, which is not modelled: it is decided on every run by evaluating this
Lean predicate on the real parser's trees (search stage).  What is proved here: what `Shape`
buys ("formatters never meet a node in a context they do not handle"), and the small
mechanisms the parser uses to establish it.
-/
import Comrak.Props.C10
import Comrak.Lemmas.Geom
namespace Comrak.C04
open Comrak Bytes

-- `Shape` implies what the library's own validator checks.
mutual
theorem shapeT_validate : ∀ (t : Tree) (p : Option NodeValue), shapeT p t = true → validateT t = true
  | .node v sp cs, p, h => by
    simp only [shapeT, Bool.and_eq_true] at h
    simp only [validateT]
    exact shapeF_validate cs v h.2
theorem shapeF_validate : ∀ (f : Forest) (v : NodeValue), shapeF (some v) f = true → validateF v.kind f = true
  | .nil, _, _ => rfl
  | .cons t ts, v, h => by
    simp only [shapeF, Bool.and_eq_true] at h
    simp only [validateF, Bool.and_eq_true]
    refine ⟨⟨?_, shapeT_validate t (some v) h.1⟩, shapeF_validate ts v h.2⟩
    cases t with
    | node w sp cs =>
      simp only [shapeT, Bool.and_eq_true] at h
      simpa [Tree.value] using h.1.1.1.1
end

theorem shape_validate (t : Tree) (h : Shape t = true) : validateT t = true := shapeT_validate t none h

/-- The places where `format_node_default` would panic (`unwrap`, `panic!`, indexing):
    a paragraph without a parent (`render_paragraph`), a table without rows (`render_table`),
    a cell whose parent is not a row or whose grandparent is not a table, or whose index is
    beyond the alignments (`render_table_cell`). -/
def nodeNoPanic (cx : Ctx) (v : NodeValue) (cs : Forest) : Bool :=
  match v with
  | .paragraph => paraTight cx || cx.parent.isSome
  | .table .. => cs.length ≥ 1
  | .tableCell =>
    (match cx.parent with | some (.tableRow _) => true | _ => false) &&
    (match cx.grand with | some (.table aligns ..) => decide (cx.index < aligns.length) | _ => false)
  | _ => true

mutual
def noPanicT (cx : Ctx) : Tree → Bool
  | .node v _ cs => nodeNoPanic cx v cs && (if htmlChildren v then noPanicF (some v) cx.parent none 0 cs else true)
def noPanicF (parent grand prev : Option NodeValue) (idx : Nat) : Forest → Bool
  | .nil => true
  | .cons t ts =>
    noPanicT { parent := parent, grand := grand, prev := prev, isLast := ts.isNil, index := idx } t &&
    noPanicF parent grand (some t.value) (idx + 1) ts
end

theorem rowsOk_length (cs : Forest) (h : rowsOk cs = true) : cs.length ≥ 1 := by
  cases cs with
  | nil => simp [rowsOk] at h
  | cons t ts => simp [Forest.length]

/-- Under `Shape` a table has a row, so `render_table`'s `last_child().unwrap()` is safe. -/
theorem table_noPanic (cx : Ctx) (aligns : List Align) (n r c : Nat) (cs : Forest)
    (h : localOk (.table aligns n r c) cs = true) : nodeNoPanic cx (.table aligns n r c) cs = true := by
  simp only [localOk, Bool.and_eq_true] at h
  simpa [nodeNoPanic] using rowsOk_length cs h.1.1

/-- Under `Shape` every cell of a row sits below a row below a table and its index is within the
    alignments, so `render_table_cell`'s `unwrap`s and `alignments[i]` are safe. -/
theorem cell_noPanic (aligns : List Align) (n r c : Nat) (hdr : Bool) (prev : Option NodeValue) (last : Bool)
    (ncells i : Nat) (kids : Forest)
    (hal : (aligns.length == n) = true) (hrow : (ncells == n) = true) (hi : i < ncells) :
    nodeNoPanic { parent := some (.tableRow hdr), grand := some (.table aligns n r c), prev := prev, isLast := last, index := i }
      .tableCell kids = true := by
  have h1 : aligns.length = n := by simpa using hal
  have h2 : ncells = n := by simpa using hrow
  simp [nodeNoPanic]; omega

/-- A paragraph below any node never reaches `node.parent().unwrap()` on `None`. -/
theorem paragraph_noPanic (cx : Ctx) (cs : Forest) (h : cx.parent.isSome = true) :
    nodeNoPanic cx .paragraph cs = true := by
  simp [nodeNoPanic, h]

/-- Table row completion as the parser does it (`table.rs`): keep at most `n` cells, then pad with
    empty cells; the result always has exactly `n` cells. -/
def completeRow {α} (n : Nat) (empty : α) (cells : List α) : List α :=
  cells.take n ++ List.replicate (n - cells.length) empty

theorem row_completion_length {α} (n : Nat) (empty : α) (cells : List α) :
    (completeRow n empty cells).length = n := by
  simp only [completeRow, List.length_append, List.length_take, List.length_replicate]
  omega

/-- ATX heading level as the block parser computes it: the number of leading `#` (the scanner
    accepts 1 to 6 of them), hence always in range. -/
def atxLevel (hashes : Nat) : Option Nat := if 1 ≤ hashes ∧ hashes ≤ 6 then some hashes else none

theorem atx_level_range (h l : Nat) (e : atxLevel h = some l) : 1 ≤ l ∧ l ≤ 6 := by
  unfold atxLevel at e
  split at e
  · cases e; assumption
  · cases e

/-! ### "Formatters never meet a node in a context they do not handle": whole trees

`geomT` (Lemmas/Geom.lean) is the formatter-independent content of that sentence; it follows
from `Shape` for every tree whose root is not itself a paragraph / item / task item (every parsed
tree has the document as root), by an induction that carries the table geometry from the table
node through its rows to their cells.  Each formatter's own panic sites then follow node by
node. -/

theorem nodeNoPanic_of_geom (cx : Ctx) (v : NodeValue) (cs : Forest)
    (h : nodeGeom cx.parent cx.grand cx.index v cs = true) : nodeNoPanic cx v cs = true := by
  cases v
  case tableCell =>
    simp only [nodeGeom, Bool.and_eq_true] at h
    obtain ⟨h1, h2⟩ := h
    cases hp : cx.parent with
    | none => simp [hp, isRowV] at h1
    | some p =>
      cases p <;> simp [hp, isRowV] at h1
      simp only [nodeNoPanic, hp, Bool.true_and]
      exact h2
  all_goals simp_all [nodeNoPanic, nodeGeom]

mutual
theorem noPanicT_of_geom : ∀ (t : Tree) (cx : Ctx), geomT cx.parent cx.grand cx.index t = true → noPanicT cx t = true
  | .node v sp cs, cx, h => by
    simp only [geomT, Bool.and_eq_true] at h
    simp only [noPanicT, Bool.and_eq_true]
    refine ⟨nodeNoPanic_of_geom cx v cs h.1, ?_⟩
    split
    · exact noPanicF_of_geom cs (some v) cx.parent none 0 h.2
    · rfl
theorem noPanicF_of_geom : ∀ (f : Forest) (parent grand prev : Option NodeValue) (idx : Nat),
    geomF parent grand idx f = true → noPanicF parent grand prev idx f = true
  | .nil, _, _, _, _, _ => rfl
  | .cons t ts, parent, grand, prev, idx, h => by
    simp only [geomF, Bool.and_eq_true] at h
    simp only [noPanicF, Bool.and_eq_true]
    exact ⟨noPanicT_of_geom t { parent := parent, grand := grand, prev := prev, isLast := ts.isNil, index := idx } h.1,
      noPanicF_of_geom ts parent grand (some t.value) (idx + 1) h.2⟩
end

/-- **HTML.** Under the C04 shape predicate none of `html.rs`'s `unwrap()` / `panic!` / index
    sites (`render_paragraph`, `render_table`, `render_table_cell`) can fire, at any node of a tree
    of any depth and width, provided the root is not itself a paragraph, item or task item. -/
theorem shape_imp_noPanic (t : Tree) (h : Shape t = true) (hr : rootOk t.value = true) : noPanicT {} t = true :=
  noPanicT_of_geom t {} (geom_of_shape t h hr)

/-- ... in particular for every tree rooted at a document (what the parser returns). -/
theorem shape_imp_noPanic_doc (sp : Sp) (cs : Forest) (h : Shape (.node .document sp cs) = true) :
    noPanicT {} (.node .document sp cs) = true :=
  shape_imp_noPanic _ h rfl

/-- The root condition is needed: a lone paragraph satisfies `Shape` (nothing in the containment
    table forbids a paragraph root) but `render_paragraph` unwraps its parent on the way out. -/
theorem shape_root_paragraph_counterexample :
    Shape (.node .paragraph {} .nil) = true ∧ noPanicT {} (.node .paragraph {} .nil) = false := by decide

/-- **XML.** Under `Shape` neither the two `ancestors.next().unwrap()` nor `alignments[ix]` of
    `xml.rs`'s table-cell arm can fire (`xmlNodeNoPanic` lists the sites and why the rest of
    `format_node` is total). -/
theorem xml_no_panic (t : Tree) (h : Shape t = true) (hr : rootOk t.value = true) : xmlNoPanicT {} t = true :=
  xmlNoPanicT_of_geom t {} (geom_of_shape t h hr)

/-- The XML model's `aligns.getD ix none` never falls back to the default where the code would
    have indexed out of range. -/
theorem xml_align_index_in_range (cx : XCtx) (aligns : List Align) (n r c : Nat)
    (hp : cx.parent = some (.tableRow true)) (hg : cx.grand = some (.table aligns n r c))
    (h : xmlNodeNoPanic cx .tableCell = true) :
    ∃ hlt : cx.index < aligns.length, aligns.getD cx.index .none = aligns[cx.index] :=
  xml_align_in_range cx aligns n r c hp hg h

/-- **CommonMark.** Under `Shape`, and if no code span has an empty literal (which the inline
    parser guarantees: `C01.normalizeCode_nonempty`; `Shape` says nothing about payloads),
    none of `cm.rs`'s sites can fire: `format_item`'s `parent().unwrap()` / `unreachable!()`,
    `format_code`'s `literal[0]`, `format_table_cell`'s `unwrap()`s and `panic!()`s
    (`cmNodeNoPanic` lists them).  The debug-build `validate()` panic is `shape_validate`. -/
theorem cm_no_panic (t : Tree) (h : Shape t = true) (hr : rootOk t.value = true)
    (hc : t.allV codeLitNonEmpty = true) : cmNoPanicT {} t = true :=
  cmNoPanicT_of_geom t {} 0 (geom_of_shape t h hr) hc

/-- The payload hypothesis is needed: `Shape` holds of a paragraph with an empty code span. -/
theorem cm_empty_code_counterexample :
    Shape (.node .document {} (.cons (.node .paragraph {} (.cons (.node (.code 1 []) {} .nil) .nil)) .nil)) = true ∧
    cmNoPanicT {} (.node .document {} (.cons (.node .paragraph {} (.cons (.node (.code 1 []) {} .nil) .nil)) .nil)) = false := by
  decide

/-- What `Shape` buys downstream (C10): balanced HTML for every option vector. -/
theorem shape_gives_balanced_html (o : HtmlOpts) (nt : NormTable) (t : Tree) (h : Shape t = true) :
    balanced (renderToks o nt t) = true :=
  Comrak.C10.html_balanced_of_shape o nt t h

/-! Non-vacuity -/
example : Shape Comrak.C10.sampleTree = true := by decide
example : validateT Comrak.C10.sampleTree = true := shape_validate _ (by decide)
example : canContain .escaped .text = true ∧ canContain .tableCell .escaped = true ∧ canContain .tableCell .escapedTag = true := by decide
example : canContain .document .item = false ∧ canContain .list .paragraph = false ∧ canContain .paragraph .paragraph = false := by decide

example : noPanicT {} Comrak.C10.sampleTree = true := shape_imp_noPanic _ (by decide) (by decide)
example : xmlNoPanicT {} Comrak.C10.sampleTree = true := xml_no_panic _ (by decide) (by decide)
example : cmNoPanicT {} Comrak.C10.sampleTree = true := cm_no_panic _ (by decide) (by decide) (by decide)
-- a header cell beyond the alignments is what the predicates exclude
example : noPanicT {} (.node .document {} (.cons (.node (.table [.left] 1 1 1) {}
    (.cons (.node (.tableRow true) {} (.cons (.node .tableCell {} .nil) (.cons (.node .tableCell {} .nil) .nil))) .nil)) .nil)) = false := by
  decide

end Comrak.C04
