/-
C08  Output is invariant under line-ending style, final newline, NUL and BOM.

What is proved here is the splitter half (DESIGN.md section 7, C08): the sequence of lines that
`Parser::feed`/`finish` hand to `process_line` - the only thing the block parser ever reads of the
text - is the same for a text and for each of its four rewrites.  `parseLines` mirrors the code's
loops, `splitLines` is the specification; the correspondence harness ties `parseLines` and the
prelude to the real `process_line` calls through the line tap.
The two places where the raw text is read otherwise (front matter, `total_size`) are outside these
theorems; for the front matter splitter see Props/C20.lean (`front_matter_any_line_endings`; the
former CR-only defect: `front_matter_cr_repaired`), for `total_size` the known findings.
-/
import Comrak.Lemmas.Lines
namespace Comrak.C08
open Comrak Bytes Comrak.Feed

def mapHead (f : Bytes → Bytes) : List Bytes → List Bytes
  | [] => []
  | l :: ls => f l :: ls

/-- **The loop is the specification**: the `process_line` calls made by `parse_document`
    (`feed` with `eof`, then `finish`) are exactly `splitLines`. -/
theorem feed_eq_splitLines (s : Bytes) : parseLines s = splitLines [] false s :=
  parseLines_eq_splitLines s

/-! `FrontMatter.lines` is the line splitting without the NUL replacement; the feeder's lines are
its lines with every NUL replaced (`FrontMatter.parseLines_map_lines`).  The clauses about line
endings, the final newline, the BOM and the sentinel are facts about `lines` (Lemmas/Lines),
carried over by that equation. -/

/-- Any mix of line-end conventions: rewriting every CRLF, bare CR and LF as LF does not change
    the lines (so all spellings of the line ends of a text give the same lines). -/
theorem lines_any_endings (x : Bytes) : parseLines (toLf false x) = parseLines x := by
  rw [FrontMatter.parseLines_map_lines, FrontMatter.parseLines_map_lines, FrontMatter.lines, FrontMatter.lines,
    FrontMatter.rawLines_toLf]

theorem toLf_lfToCrlf (x : Bytes) (h : (0x0D : UInt8) ∉ x) : toLf false (lfToCrlf x) = x := by
  induction x with
  | nil => rfl
  | cons b r ih =>
    have hb : b ≠ 0x0D := Ne.symm (List.ne_of_not_mem_cons h)
    have hr := ih (List.not_mem_of_not_mem_cons h)
    by_cases h1 : b = 0x0A
    · simp [lfToCrlf, toLf, h1, hr]
    · simp [lfToCrlf, toLf, h1, hb, hr]

theorem toLf_lfToCr (x : Bytes) (h : (0x0D : UInt8) ∉ x) (cr : Bool) : toLf cr (lfToCr x) = x := by
  induction x generalizing cr with
  | nil => rfl
  | cons b r ih =>
    have hb : b ≠ 0x0D := Ne.symm (List.ne_of_not_mem_cons h)
    have hr := ih (List.not_mem_of_not_mem_cons h)
    by_cases h1 : b = 0x0A
    · simp [lfToCr, toLf, h1, hr]
    · simp [lfToCr, toLf, h1, hb, hr]

/-- Rewriting every LF of a CR-free text as CRLF does not change the lines. -/
theorem lines_crlf (x : Bytes) (h : (0x0D : UInt8) ∉ x) : parseLines (lfToCrlf x) = parseLines x := by
  rw [← lines_any_endings (lfToCrlf x), toLf_lfToCrlf x h]

/-- Rewriting every LF of a CR-free text as a bare CR does not change the lines. -/
theorem lines_cr (x : Bytes) (h : (0x0D : UInt8) ∉ x) : parseLines (lfToCr x) = parseLines x := by
  rw [← lines_any_endings (lfToCr x), toLf_lfToCr x h]

/-- Adding a newline to a non-empty text that lacks a final line end does not change the lines. -/
theorem lines_final_newline (x : Bytes) (hne : x ≠ [])
    (hlast : ∀ c, x.getLast? = some c → c ≠ 0x0A ∧ c ≠ 0x0D) :
    parseLines (x ++ [0x0A]) = parseLines x := by
  rw [FrontMatter.parseLines_map_lines, FrontMatter.parseLines_map_lines,
    FrontMatter.lines_final x hne hlast]

/-- The empty text is the one exception at the level of lines: it has no line, `"\n"` has one
    (blank) line.  Both parse to the empty document. -/
theorem lines_final_newline_empty : parseLines [] = [] ∧ parseLines [0x0A] = [[]] := by decide

theorem splitLines_nul (x cur : Bytes) (cr : Bool) :
    splitLines cur cr (nulToFFFD x) = splitLines cur cr x := by
  induction x generalizing cur cr with
  | nil => rfl
  | cons b r ih =>
    by_cases h0 : b = 0x00
    · subst h0
      simp [nulToFFFD, FFFD, splitLines, ih]
    · simp only [nulToFFFD, h0, if_false, splitLines, ih]

/-- Replacing every NUL by U+FFFD beforehand does not change the lines. -/
theorem lines_nul (x : Bytes) : parseLines (nulToFFFD x) = parseLines x := by
  rw [feed_eq_splitLines, feed_eq_splitLines, splitLines_nul]

/-- A byte-order mark in front of a non-empty text changes the lines only in that the first line
    carries the three BOM bytes as a prefix. -/
theorem bom_first_line (x : Bytes) (hne : x ≠ []) :
    parseLines (BOM ++ x) = mapHead (BOM ++ ·) (parseLines x) := by
  rw [FrontMatter.parseLines_map_lines, FrontMatter.parseLines_map_lines,
    FrontMatter.lines_prefix BOM x FrontMatter.noEol_BOM hne]
  cases FrontMatter.lines x with
  | nil => rfl
  | cons l ls => exact congrArg (· :: _) (FrontMatter.nulToFFFD_append BOM l)

theorem sentinel_append (p l : Bytes) (hne : p ≠ []) (hp : ∀ c, p.getLast? = some c → isLineEnd c = false) :
    Feed.sentinel (p ++ l) = p ++ Feed.sentinel l := by
  unfold Feed.sentinel
  rw [List.getLast?_append]
  cases h : l.getLast? with
  | none =>
    obtain rfl := List.getLast?_eq_none_iff.mp h
    have hc := List.getLast?_eq_some_getLast hne
    simp [hc, hp _ hc]
  | some c => by_cases hc : isLineEnd c = true <;> simp [hc]

theorem blockInput_succ (n : Nat) (ls : List Bytes) : blockInput (n + 1) ls = ls.map Feed.sentinel := by
  induction ls generalizing n with
  | nil => rfl
  | cons l ls ih =>
    have := ih (n + 1)
    simp only [blockInput] at this ⊢
    simp [preludes, prelude, bomOffset, this]

/-- ... and `process_line` skips exactly that prefix: with a BOM in front, the block parser reads
    the terminated lines of the text itself. -/
theorem bom_skipped (x : Bytes) (hne : x ≠ []) :
    blockInput 0 (parseLines (BOM ++ x)) = (parseLines x).map Feed.sentinel := by
  rw [bom_first_line x hne]
  cases h : parseLines x with
  | nil => rfl
  | cons l ls =>
    have hs : Feed.sentinel (BOM ++ l) = BOM ++ Feed.sentinel l :=
      sentinel_append BOM l (by decide) (fun c hc => Option.some.inj hc ▸ rfl)
    have hb := blockInput_succ 0 ls
    simp only [blockInput] at hb ⊢
    simp only [mapHead, preludes, prelude, List.map_cons, hs, bomOffset, isPrefixB_self_append,
      and_self, if_true, hb, Nat.zero_add]
    simp [BOM]

/-- The excluded points, kept visible: an empty text gains a (blank) line, and a BOM in front of a
    text that already starts with one is ordinary text (U+FEFF) for the parser. -/
theorem bom_counterexample :
    blockInput 0 (parseLines BOM) = [[0x0A]] ∧ blockInput 0 (parseLines []) = [] ∧
    blockInput 0 (parseLines (BOM ++ BOM ++ [0x61])) = [BOM ++ [0x61, 0x0A]] ∧
    blockInput 0 (parseLines (BOM ++ [0x61])) = [[0x61, 0x0A]] := by decide +kernel

/-- Every line handed to the block parser is non-empty, ends in `\n` (supplied by `process_line`),
    and contains no `\n`, `\r` or NUL before it. -/
theorem sentinel (x : Bytes) (n : Nat) : ∀ l ∈ parseLines x,
    (prelude n l).1 = l ++ [0x0A] ∧ (prelude n l).1 ≠ [] ∧ ∀ b ∈ l, b ≠ 0x0A ∧ b ≠ 0x0D ∧ b ≠ 0x00 := by
  intro l hl
  rw [FrontMatter.parseLines_map_lines] at hl
  obtain ⟨l0, hl0, rfl⟩ := List.mem_map.mp hl
  have hp : ∀ b ∈ nulToFFFD l0, plain b :=
    FrontMatter.nulToFFFD_plain l0 (FrontMatter.noEol_of_mem_lines x l0 hl0)
  have hs : Feed.sentinel (nulToFFFD l0) = nulToFFFD l0 ++ [0x0A] := by
    unfold Feed.sentinel
    cases h : (nulToFFFD l0).getLast? with
    | none => rw [List.getLast?_eq_none_iff.mp h]; rfl
    | some c =>
      have hc : isLineEnd c = false :=
        (Bool.or_eq_false_iff.mp ((plain_iff c).mp (hp c (List.mem_of_getLast? h)))).1
      simp only [hc, Bool.false_eq_true, if_false]
  refine ⟨hs, ?_, hp⟩
  show Feed.sentinel (nulToFFFD l0) ≠ []
  rw [hs]
  exact List.append_ne_nil_of_right_ne_nil _ (List.cons_ne_nil _ _)

-- "a\nb\n" as CRLF / CR / without the final newline; "a\0b"; BOM
example : parseLines (lfToCrlf [0x61, 0x0A, 0x62, 0x0A]) = [[0x61], [0x62]] := by decide
example : lfToCrlf [0x61, 0x0A, 0x62, 0x0A] = [0x61, 0x0D, 0x0A, 0x62, 0x0D, 0x0A] := by decide
example : parseLines (lfToCr [0x61, 0x0A, 0x0A, 0x62]) = [[0x61], [], [0x62]] := by decide
example : parseLines [0x61, 0x0A, 0x62] = parseLines [0x61, 0x0A, 0x62, 0x0A] := by decide
example : parseLines [0x61, 0x00, 0x62] = [[0x61, 0xEF, 0xBF, 0xBD, 0x62]] := by decide
example : parseLines (BOM ++ [0x61, 0x0A, 0x62]) = [BOM ++ [0x61], [0x62]] := by decide
example : toLf false [0x61, 0x0D, 0x0A, 0x62, 0x0D, 0x63, 0x0A, 0x0D, 0x0D, 0x0A] = [0x61, 0x0A, 0x62, 0x0A, 0x63, 0x0A, 0x0A, 0x0A] := by decide
-- the CR hypothesis of `lines_crlf` is needed: "a\r\nb" has two lines, "a\r\r\nb" three
example : parseLines [0x61, 0x0D, 0x0A, 0x62] ≠ parseLines (lfToCrlf [0x61, 0x0D, 0x0A, 0x62]) := by decide

end Comrak.C08
