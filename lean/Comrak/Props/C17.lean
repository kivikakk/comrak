/-
C17 - CommonMark formatting is idempotent.
What the model of src/cm.rs (Comrak/Cm.lean, tied to the real writer byte for byte by the
correspondence harness) lets us prove about the writer's *canonical spellings*, i.e. the part of
idempotence that does not need the parser: the pending-newline bookkeeping is idempotent and
monotone, a flush leaves nothing pending, the output ends in exactly the newline convention the
writer re-reads, fences and thematic breaks have one spelling. The fixed-point statement itself
(`cm (parse (cm t)) = cm t`) is false on the pinned tree; the end-of-list comment witness is
kept below and the classes found by the search are listed as findings.
-/
import Comrak.Cm
import Comrak.Lemmas.Cm
import Comrak.Lemmas.CmBlock
namespace Comrak.C17
open Comrak Bytes Comrak.Cm

/-- `cr` and `blankline` are idempotent, `blankline` absorbs `cr`, and neither ever lowers the
    number of pending newlines (`need_cr` is monotone between flushes). -/
theorem cr_blankline_idempotent (st : St) :
    st.cr.cr = st.cr ∧ st.blankline.blankline = st.blankline ∧ st.blankline.cr = st.blankline ∧
    st.cr.blankline = st.blankline ∧ st.needCr ≤ st.cr.needCr ∧ st.needCr ≤ st.blankline.needCr := by
  refine ⟨?_, ?_, ?_, ?_, cr_needCr_mono st, blankline_needCr_mono st⟩ <;>
    simp only [St.cr, St.blankline] <;> congr 1 <;> exact Nat.max_assoc _ _ _

/-- After the flush at the head of `output` nothing is pending, and flushing again changes nothing. -/
theorem crFlush_clears (st : St) : (crFlush st).needCr = 0 ∧ crFlush (crFlush st) = crFlush st := by
  have h0 : (crFlush st).needCr = 0 := by
    simp only [crFlush]; split <;> split <;> rfl
  refine ⟨h0, ?_⟩
  generalize crFlush st = s at h0
  cases s
  simp only at h0
  subst h0
  simp [crFlush]

/-- A tight list item never gets more than one pending newline written (no blank line). -/
theorem tight_item_single_newline (st : St) (h : st.inTight = true) :
    (crFlush st).rv = st.rv ∨ (crFlush st).rv = crLoop st.rv st.prefix_ 1 0 st.rv := by
  simp only [crFlush, h, Bool.true_and]
  by_cases h1 : st.needCr > 1
  · right; simp [h1]
  · by_cases h0 : st.needCr = 0
    · left; simp [h0]
    · right
      have : st.needCr = 1 := by omega
      simp [this]

/-- The document the writer returns is empty or ends with a line feed. -/
theorem renderCm_final_newline (o : CmOpts) (t : Tree) :
    renderCm o t = [] ∨ (renderCm o t).getLast? = some 0x0A := by
  simp only [renderCm]
  split
  · left; rfl
  · right
    rename_i b r heq
    split
    · rename_i hb
      simp only [beq_iff_eq] at hb
      simp [heq, hb]
    · simp

/-- One spelling per construct: thematic breaks are always `-----`, fences are at least three
    characters of one kind, the bullet is the configured one. (These are the spellings a second
    pass must reproduce.) -/
theorem canonical_spellings (o : CmOpts) (info lit : Bytes) :
    3 ≤ fenceLen info lit ∧ (fenceChar info = 0x60 ∨ fenceChar info = 0x7E) ∧
    (∀ n d, (olMarker o n d).length ≥ o.olWidth) := by
  refine ⟨by simp only [fenceLen]; omega, ?_, ?_⟩
  · simp only [fenceChar]; split <;> simp
  · intro n d
    simp only [olMarker, spaces, List.length_append, List.length_replicate]
    omega

/-- A list whose last item is empty, followed by another list: the writer puts the end-of-list
    comment directly under the empty item; re-parsed, the comment is an HTML block of its own and
    the second pass writes a blank line before it - the first pass is not a fixed point. -/
def emptyItemThenList : Tree :=
  let l : NList := { tight := true }
  .node .document {} (.cons (.node (.list l) {} (.cons (.node (.item l) {} .nil) .nil))
    (.cons (.node (.list l) {} (.cons (.node (.item l) {} .nil) .nil)) .nil))
def emptyItemCommentList : Tree :=
  let l : NList := { tight := true }
  .node .document {} (.cons (.node (.list l) {} (.cons (.node (.item l) {} .nil) .nil))
    (.cons (.node (.htmlBlock 2 [0x3C, 0x21, 0x2D, 0x2D, 0x20, 0x65, 0x6E, 0x64, 0x20, 0x6C, 0x69, 0x73, 0x74, 0x20, 0x2D, 0x2D, 0x3E, 0x0A]) {} .nil)
    (.cons (.node (.list l) {} (.cons (.node (.item l) {} .nil) .nil)) .nil)))

theorem cm_end_list_after_empty_item_counterexample :
    renderCm {} emptyItemThenList ≠ renderCm {} emptyItemCommentList := by
  decide +kernel

example : (({} : St).blankline).needCr = 2 := by decide

section Canon
open Comrak.Canon Comrak.CmCanon

/-- **The writer's fixed point on the canonical class (partial).** For a canonical document `d`
    (`Doc.ok`) in the sub-class `Doc.cmOk`, the CommonMark writer model with default options,
    run on the tree the document spells (`d.toTree`, the tree the K harness compares with comrak's
    parse of `d.write`), writes exactly `d.write`, byte for byte.

    `Doc.cmOk` (decidable; `Comrak/Lemmas/CmInline.lean`, `CmBlock.lean`) fixes the spelling to
    the writer's choices and restricts the class:
    * blocks: paragraphs, ATX headings (level >= 1), the thematic break `-----` (not as the first
      block of a list item or block quote, where the writer first ends the marker's line), block
      quotes holding exactly one block that is not a thematic break (and a list only where no
      tight list item encloses the quote), bullet lists with marker `-` and ordered lists (any
      start number, `.` or `)`; the writer's decimal marker is proved equal to the document's),
      tight or loose, nested to any depth, with or without task markers (`[ ]`, `[x]`), whose
      items are non-empty and contain no blank line (all lines of an item non-empty: a loose list
      has one-block items, lists nested in items are tight) - the writer puts the container prefix
      (with its trailing spaces) on blank lines inside containers, `Doc.write` does not; no list
      directly followed by a list (the writer separates them by `<!-- end list -->`);
    * inlines: text made of bytes the writer never escapes (ASCII letters, digits, space,
      `, ; ? / { } @ %`, bytes >= 0x80 and the table's Unicode atoms) and of backslash escapes of
      exactly the marks the writer escapes everywhere (`* _ [ ] # < > \ ` !`), emphasis `*..*` and
      strong `**..**` (star delimiters; no strong directly inside strong, whose delimiters the
      writer drops; no emphasis as the only child of an emphasis, which the writer spells `_`),
      strikethrough `~~..~~`, code spans whose tick count is the writer's
      `shortestUnusedSequence` and that need no padding, inline links and images
      `[text](dest)`, `[text](dest "title")`, `![alt](dest)` with a non-empty destination without
      angle brackets and a title, both made of bytes the writer does not escape there, the link
      not being one the writer abbreviates to an autolink, angle autolinks `<scheme:rest>`
      (not `mailto:`, whose scheme the writer drops), backslash hard breaks and soft breaks (not
      in headings);
    * no reference definitions, no footnotes.
    Excluded constructs: setext headings, fenced and indented code, HTML blocks, tables,
    reference-style links, `mailto:` autolinks, entities and numeric references, backslash escapes of other
    punctuation (the writer drops or keeps them depending on context), raw HTML, footnote
    references, text containing a byte the writer escapes only in some contexts (`& - + = . )`)
    or writes raw although it can start syntax (`~ | : " ' ( $ ^`), block quotes with several
    blocks, loose lists with multi-block items, a list inside a quote inside a tight list item.
    The hypothesis `d.ok` is not used by the proof; it records that the statement is about the
    canonical class, on which the two correspondences (K: comrak parses `d.write` to `d.toTree`,
    S: `renderCm` = `format_commonmark`) are checked. -/
theorem cm_fixed_point_canon_partial (d : Doc) (_h : d.ok = true) (hc : d.cmOk = true) :
    renderCm {} d.toTree = d.write :=
  cm_fixed d hc

/-- **Idempotence on the class, modulo the parser correspondence.** For any function `parse` that
    maps the text of `d` to the tree `d` spells (what K checks for comrak's `parse_document`), the
    writer's output on `d`'s tree is a fixed point of `write . parse`: formatting the re-parsed
    output gives the same bytes. -/
theorem cm_idempotent_canon_partial (parse : Bytes → Tree) (d : Doc) (h : d.ok = true) (hc : d.cmOk = true)
    (hK : parse d.write = d.toTree) :
    renderCm {} (parse (renderCm {} d.toTree)) = renderCm {} d.toTree := by
  rw [cm_fixed_point_canon_partial d h hc, hK, cm_fixed_point_canon_partial d h hc]

/-- Non-vacuity: a heading, a tight bullet list with a nested ordered list, a task item, emphasis,
    strong, strikethrough, a link with a title, an escaped `*`, a soft break, a block quote with a
    code span, a quoted list, a thematic break and a loose ordered list running from 9 to 10. -/
def canonCmExample : Doc :=
  let txt (s : List UInt8) : Inl := .text (s.map Atom.ch)
  { blocks := Blks.ofList [
      .heading 2 (Inls.ofList [txt [0x54, 0x69]]),
      .list { tight := true } (Items.ofList [
        Blks.ofList [.para (Inls.ofList [txt [0x6F, 0x6E, 0x65, 0x20], .emph false (Inls.ofList [txt [0x65, 0x6D]])]),
                     .list { ordered := true, start := 1, paren := true, tight := true } (Items.ofList [Blks.ofList [.para (Inls.ofList [txt [0x69, 0x6E, 0x20],
                        .strong false (Inls.ofList [txt [0x73, 0x74]])])]])],
        Blks.ofList [.para (Inls.ofList [.text [.ch 0x74, .esc 0x2A, .ch 0x6F], .soft, txt [0x6D]])]]),
      .quote (Blks.ofList [.para (Inls.ofList [txt [0x71, 0x20], .code 1 [0x78], txt [0x20],
        .link [0x75, 0x2F, 0x76] [0x74, 0x20, 0x74] false .inline (Inls.ofList [txt [0x6C, 0x20], .strike (Inls.ofList [txt [0x73]])])])]),
      .quote (Blks.ofList [.list { tight := true } (Items.ofListT [(.checked 0x78, Blks.ofList [.para (Inls.ofList [txt [0x64]])]),
        (.unchecked, Blks.ofList [.para (Inls.ofList [txt [0x65]])])])]),
      .hr 0x2D 5,
      .list { ordered := true, start := 9, tight := false } (Items.ofList [Blks.ofList [.para (Inls.ofList [txt [0x61]])],
                                               Blks.ofList [.para (Inls.ofList [txt [0x62]])]]) ] }

theorem canonCmExample_ok : canonCmExample.ok = true ∧ canonCmExample.cmOk = true := by decide +kernel

example : canonCmExample.ok = true ∧ canonCmExample.cmOk = true := canonCmExample_ok

example : renderCm {} canonCmExample.toTree = canonCmExample.write :=
  cm_fixed_point_canon_partial _ canonCmExample_ok.1 canonCmExample_ok.2

end Canon

end Comrak.C17
