/-
C03  Canonical documents parse to exactly the structure they spell.

`Doc` (Comrak/Canon/Doc.lean) is an inductive type of Markdown documents: paragraphs, ATX and
setext headings, thematic breaks, fenced and indented code blocks, block quotes, tight and loose
bullet / ordered lists (any nesting) with GFM task items, GFM tables with column alignments, HTML
blocks (start condition 6), footnote definitions; with text (plain characters, backslash escapes,
named and numeric character references, multi-byte characters), code spans, emphasis, strong
emphasis, GFM strikethrough, inline and reference links with titles (definitions before or after
use, label case variants, shadowed duplicates), images, autolinks, hard and soft breaks, footnote
references.  `Doc.write` is the canonical writer, `Doc.toTree` the comrak AST the document spells
(for footnotes: the tree after comrak's footnote pass - definitions moved to the end in the order
of first reference, `ix` / `ref_num` / `total_references` filled in; for tables: the `NodeTable`
counters as comrak fills them), `Doc.refHtml` the reference renderer written from the
specifications, `Doc.ok` the decidable side condition that makes the spelling unambiguous
(Comrak/Canon/Ok.lean lists its clauses).

What is proved here, for all documents of any depth and size: the complete model of comrak's
HTML formatter (Comrak/Html.lean, default options, i.e. safe mode: an HTML block is rendered as
the omission comment) applied to `toTree d` writes exactly `refHtml d`, including the footnote
section with its back-links, where the formatter's `footnote_ix` / `written_footnote_ix` state is
followed through; `toTree d` satisfies the shape predicate of C04.  The remaining link,
`parse_document (write d) = toTree d`, is the correspondence the harness checks on every run
together with `markdown_to_html (write d) = refHtml d` on the real code.

`Doc.toTreeP` adds source positions (see `toTreeP_erase_canon`); that they satisfy the range /
nesting / order / slice oracles of C11 and C12 (`Doc.posOk`) is `positions_canon` below, and is
also evaluated per generated document by the driver.

The theorems carry the suffix `_canon`: the class is unbounded but it is not the whole language
(multi-paragraph footnotes, HTML blocks of the other start conditions, empty list items, lazy
continuation lines and every non-canonical spelling are not in it).
-/
import Comrak.Lemmas.CanonFn
import Comrak.Lemmas.CanonShape
import Comrak.Lemmas.CanonPosL
namespace Comrak.C03
open Comrak Bytes Comrak.Canon

/-- Inline content, from any writer state: the formatter model spells the reference rendering and
    changes nothing in its state but `last_was_lf`. -/
theorem inlines_canon (is : Inls) (h : is.safe = true) (p g prev : Option NodeValue) (idx : Nat) (lf : Bool) :
    R (renderF {} {} p g prev idx is.toForest) lf is.html :=
  inls_goal is h p g prev idx lf

/-- One block in any admissible position (child of the document, of a block quote or of a list
    item), tight or loose, at the beginning of an output line or not. -/
theorem block_canon (b : Blk) (h : b.safe = true) (cx : Ctx) (lf : Bool) (hp : okParent cx.parent = true) :
    R (renderT {} {} cx b.toTree) lf (b.html (paraTight cx) lf) :=
  blk_goal b h cx lf hp

/-- The statement under the part of `Doc.ok` it needs (`Doc.safe`: no URL that comrak's safe mode
    blanks, no `'` in URLs, info string not `math` and without line end, footnote names of letters
    and digits). -/
theorem refHtml_eq_renderHtml_of_safe (d : Doc) (h : d.safe = true) :
    renderHtml {} {} d.toTree = d.refHtml :=
  doc_goal d h

/-- A table in any position: `<table>`, `<thead>`, `<tbody>` only when there are body rows,
    `align` attributes per column. -/
theorem table_canon (al : List Align) (h : List Inls) (rows : List (List Inls))
    (hh : h.all Inls.safe = true) (hr : rows.all (fun r => r.all Inls.safe) = true) (cx : Ctx) (lf : Bool) :
    R (renderT {} {} cx (Blk.table al h rows).toTree) lf (crB lf ++ refTable al h rows) :=
  table_goal al h rows hh hr cx lf

/-- The items of a list, with and without task markers (`<li><input type="checkbox" .. /> `). -/
theorem items_canon (items : Items) (h : items.safe = true) (m : Marker) (k : Nat) (L : NList)
    (g prev : Option NodeValue) (idx : Nat) :
    R (renderF {} {} (some (.list L)) g prev idx (items.toForest m k)) true (items.html L.tight) :=
  items_goal items h m k L g prev idx

/-- The footnote section: started from a state in which `k` notes have been written, the
    formatter model writes the remaining definitions with their back-links and ends with
    `footnote_ix = written_footnote_ix = k + number of notes`. -/
theorem footnotes_canon (notes : List Note) (h : notes.all Note.safe = true) (g prev : Option NodeValue)
    (idx k : Nat) (an : List Bytes) :
    RT (renderF {} {} (some .document) g prev idx (notesForest notes)) ⟨true, k, k, an⟩
      ⟨true, k + notes.length, k + notes.length, an⟩ (notesFrom k notes) :=
  notes_goal notes h g prev idx k an

/-- **C03 (canonical class).** For every canonical document, of any nesting depth, tightness,
    start number, fence length, table size, number of footnotes: the model of comrak's HTML
    formatter applied to the tree the document spells equals the independent reference renderer. -/
theorem refHtml_eq_renderHtml_canon (d : Doc) (h : d.ok = true) :
    renderHtml {} {} d.toTree = d.refHtml := by
  simp only [Doc.ok, Bool.and_eq_true] at h
  exact doc_goal d h.2

/-- The tree a canonical document spells satisfies the full shape predicate of C04. -/
theorem shape_canon (d : Doc) (h : d.ok = true) : Shape d.toTree = true := by
  simp only [Doc.ok, Bool.and_eq_true] at h
  exact doc_shape d h.1

/-- Source positions (serves C11/C12): `Doc.toTreeP d` (Comrak/Canon/Pos.lean) carries, for every node
    of a kind comrak documents as reliable, the line/column span the node's own text occupies in
    `write d` (none for an indented code block and for the inlines of a cell that contains `\|`:
    comrak's positions for these are off, findings of C11 / C12); the harness compares these with
    the positions of the real parser on every run.  It is the tree of the theorems above with
    positions filled in, nothing else. -/
theorem toTreeP_erase_canon (d : Doc) : eraseT d.toTreeP = d.toTree := doc_erase d

/-- The hypothesis on the info string is necessary: comrak renders a code block whose info string
    is exactly `math` with an extra `data-math-style` attribute even with every extension off
    (the specification leaves the treatment of info strings open, so this is not a finding). -/
theorem math_info_counterexample :
    ∃ d : Doc, d.wf = true ∧ renderHtml {} {} d.toTree ≠ d.refHtml :=
  ⟨{ blocks := .cons (.fence 0x60 3 mathInfo [[0x78]]) .nil }, by decide +kernel, by decide +kernel⟩

/-! Non-vacuity: a document with an ATX heading, a two-line setext heading with strikethrough, an
indented code block, a loose ordered list starting at 7 whose items hold a paragraph with emphasis,
a link with title, an image, an autolink, an escape, an entity, a hard break and two footnote
references, a nested tight bullet list and a block quote with a fenced code block; a
tight task list; a table with alignments, an empty cell and a second reference to the first note;
an HTML block; a thematic break; three footnote definitions written in another order than they are
numbered, one of them unused. -/
def sampleBlocks : Blks :=
  Blks.ofList
    [ .heading 2 (Inls.ofList [.text [.ch 0x54, .esc 0x2A], .code 2 [0x61, 0x60, 0x62]]),
      .setext 2 4 (Inls.ofList [.text [.ch 0x41], .soft, .strike (Inls.ofList [.text [.ch 0x64]])]),
      .icode [[0x78], [], [0x20, 0x79]],
      .list { ordered := true, start := 7, paren := true, tight := false }
        (Items.ofList
          [ Blks.ofList
              [ .para (Inls.ofList
                  [ .text [.ch 0x61, .ch 0x20],
                    .emph false (Inls.ofList [.text [.ch 0x62]]),
                    .fnref [0x6E] 1 1,
                    .text [.ch 0x20, .ent 0, .esc 0x5B],
                    .hard true,
                    .link [0x2F, 0x75, 0x3F, 0x61, 0x26, 0x62] [0x74, 0x3C] false (.ref [0x52, 0x31] [0x72, 0x31] false)
                      (Inls.ofList [.strong true (Inls.ofList [.text [.ch 0x78]]), .text [.esc 0x21]]),
                    .soft,
                    .image [0x69, 0x2E, 0x70, 0x6E, 0x67] [] true (Inls.ofList [.text [.ch 0x7A]]),
                    .autolink 1 [0x2F, 0x2F, 0x65],
                    .fnref [0x42, 0x32] 1 2 ]),
                .list { bullet := 0x2B, tight := true }
                  (Items.ofList [Blks.ofList [.para (Inls.ofList [.text [.uni 0]])],
                                 Blks.ofList [.para (Inls.ofList [.text [.ch 0x63]]), .quote (Blks.ofList [.hr 0x2A 3])]]) ],
            Blks.ofList
              [ .quote (Blks.ofList [.fence 0x7E 4 [0x72, 0x73] [[0x3C, 0x61, 0x3E], [], [0x20, 0x62]]]) ] ]),
      .list { bullet := 0x2D, tight := true }
        (Items.ofListT
          [ (.unchecked, Blks.ofList [.para (Inls.ofList [.text [.ch 0x74]])]),
            (.checked 0x78, Blks.ofList [.para (Inls.ofList [.code 1 [0x64]])]),
            (.no, Blks.ofList [.para (Inls.ofList [.text [.ch 0x6E]])]) ]),
      .table [.left, .center, .none]
        [Inls.ofList [.text [.ch 0x61]], Inls.ofList [.emph true (Inls.ofList [.text [.ch 0x62]])], .nil]
        [ [Inls.ofList [.text [.ch 0x31, .esc 0x7C]], .nil, Inls.ofList [.code 1 [0x63], .fnref [0x6E] 2 1]] ],
      .htmlb [[0x3C, 0x64, 0x69, 0x76, 0x20, 0x69, 0x64, 0x3D, 0x78, 0x3E], [0x68, 0x69, 0x20, 0x2A, 0x61, 0x2A]],
      .hr 0x2D 5 ]

def sampleDoc : Doc :=
  { blocks := sampleBlocks,
    shadow := [{ label := [0x52, 0x31], url := [0x78], title := [], angle := false, before := false }],
    notes := [ { name := [0x6E], total := 2, body := Inls.ofList [.text [.ch 0x4E, .ch 0x20], .strong false (Inls.ofList [.text [.ch 0x6F]])] },
               { name := [0x42, 0x32], total := 1, body := Inls.ofList [.text [.ch 0x74, .ch 0x77, .ch 0x6F]] } ],
    noteOrder := [1, 0],
    unused := [ { name := [0x7A, 0x7A], total := 0, body := Inls.ofList [.text [.ch 0x75]] } ] }

example : sampleDoc.ok = true := by decide +kernel

example : sampleDoc.write.length = 358 := by decide +kernel
example : Shape sampleDoc.toTree = true := by decide +kernel
/-- The claimed positions of the sample lie inside `write d`, nest, are ordered and denote the text
    their kinds claim (the C11 / C12 oracles of Comrak/Sourcepos.lean). -/
example : sampleDoc.posOk = true := by decide +kernel

/-- The two recorded findings are visible on the model: comrak's trees for these documents are not
    the trees the documents spell, and `Doc.ok` excludes them (tight list holding a table without
    body rows before its end; an item whose text merely reads like a task marker). -/
example : Doc.ok { blocks := Blks.ofList [.list { tight := true } (Items.ofList
    [Blks.ofList [.table [.none] [Inls.ofList [.text [.ch 0x61]]] []], Blks.ofList [.para (Inls.ofList [.text [.ch 0x62]])]])] } = false := by
  decide +kernel
example : Doc.ok { blocks := Blks.ofList [.list { tight := true } (Items.ofList
    [Blks.ofList [.para (Inls.ofList [.text [.esc 0x5B, .ch 0x78, .esc 0x5D, .ch 0x20, .ch 0x61]])]])] } = false := by
  decide +kernel

/-- **Positions of canonical documents (C11 / C12 on the canonical class).**  For every canonical
    document - any nesting of block quotes and lists, tables, task items, HTML blocks, footnotes,
    multi-line emphasis and links - the positioned tree `d.toTreeP` passes all oracles of
    Comrak/Sourcepos.lean on the written source `write d`: every claimed position lies in the
    source (`spRangeFail`), lies within its nearest reliable ancestor (`spNested`), follows its
    previous sibling (`spOrdered`), and denotes a slice with the bytes its kind requires
    (`sliceFail`: text literals, delimiters of code spans / emphasis / strong / strikethrough /
    links / images / autolinks, `#` of ATX headings, underline and line end of setext headings,
    fence, thematic break, `>` of block quotes, no bare pipe in table cells; `sliceEndFail`: a
    block quote ends where a line ends).  Stated under two explicit decidable hypotheses, both of
    which are consequences of `Doc.ok d` (`positions_canon` below): `cleanG d.glines` - no line
    `write d` joins contains a line-end byte - and `d.ph` (Comrak/Lemmas/CanonPosE.lean, CanonPosH.lean) - local facts: no empty line inside a
    paragraph, lengths at least 1 / 3, heading and cell content on one line, escaped pipes in
    cells, the writer's order of the footnote definitions names valid definitions. -/
theorem positions_canon_partial (d : Doc) (h1 : cleanG d.glines = true) (h2 : d.ph = true) : d.posOk = true :=
  positions_doc d h1 h2

/-- The lines `Doc.write` joins (`write d = joinLines d.glines`) contain no line end and no carriage
    return: the line table of the source is the list of these lines. -/
theorem write_lines_clean_canon (d : Doc) (h : d.ok = true) : d.write = Canon.joinLines d.glines ∧ cleanG d.glines = true :=
  ⟨rfl, (hyps_of_ok d h).1⟩

/-- **C11 / C12 on the canonical class.**  For every canonical document (`Doc.ok d`, nothing else
    assumed) the positioned tree `d.toTreeP` - the positions the harness compares with the real
    parser's on every run - satisfies the range, nesting, order and slice clauses of
    Comrak/Sourcepos.lean on `write d`.  (Derived from `positions_canon_partial`: `Doc.ok` gives
    both hypotheses - `inls_facts`, `blk_facts`, `cellPh_of_wf`, `order_valid`, `hyps_of_ok` in
    Comrak/Lemmas/CanonPosI..L.lean.) -/
theorem positions_canon (d : Doc) (h : d.ok = true) : d.posOk = true := positions_ok d h

/-- The hypotheses are satisfiable together with `Doc.ok` (the sample has every construct). -/
example : cleanG sampleDoc.glines = true ∧ sampleDoc.ph = true := by decide +kernel

end Comrak.C03
